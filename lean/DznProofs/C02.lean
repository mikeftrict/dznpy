/-
  C02 — Each port runs under exactly the runtime semantics it was configured with.
-/
import DznModel.Sem
import DznProofs.Lemmas.Basic
import DznProofs.C01
open Scoping Ast Shell Sem Lem SemReact

namespace C02

/-- **MTS provides in-event**: whatever context the caller is in, the component's event is
    observed *in dispatcher context* (`disp=1`), the call goes through `dzn::shell` (it blocks until
    the dispatcher has run it: the reply is in the result) and nothing is merely queued -/
theorem mts_provides_in_runs_in_dispatcher (w : World) (n : Nat) (mv p : Str) (ev : Event)
    (ps : List LParam) (byVal : List Str) (args : List Val)
    (hq : w.queue = [])
    (hb : w.get ⟨.bnd mv, .in_, ev.name⟩ =
          some (.ir (.shell ⟨.enc p, .in_, ev.name⟩ ps (ps.map (·.name)) byVal) ev [] []))
    (hc : w.get ⟨.enc p, .in_, ev.name⟩ = some (.scripted .comp p ev))
    (hlen : ps.length = args.length) (hnd : (ps.map (·.name)).Nodup) :
    (invoke (n + 3) w ⟨.bnd mv, .in_, ev.name⟩ args).1.out = C01.obsLine .comp p ev args true :: w.out ∧
    (invoke (n + 3) w ⟨.bnd mv, .in_, ev.name⟩ args).1.shellCalls = w.shellCalls + 1 ∧
    (invoke (n + 3) w ⟨.bnd mv, .in_, ev.name⟩ args).1.posted = w.posted ∧
    (invoke (n + 3) w ⟨.bnd mv, .in_, ev.name⟩ args).1.queue = [] ∧
    (invoke (n + 3) w ⟨.bnd mv, .in_, ev.name⟩ args).1.inDispatch = w.inDispatch ∧
    (∃ rep after, (invoke (n + 3) w ⟨.bnd mv, .in_, ev.name⟩ args).2 = .ok rep after) := by
  rw [C01.env_to_comp_mts_provides w n mv p ev ps byVal args hq hb hc hlen hnd]
  exact ⟨rfl, rfl, rfl, hq, rfl, _, _, rfl⟩

/-- **MTS requires out-event**: the call returns immediately with one more queued closure and no
    observation; the observation appears when the dispatcher runs, in dispatcher context, with
    the argument values *at call time* (they were captured by value) -/
theorem mts_requires_out_is_queued_by_value (w : World) (n : Nat) (mv p : Str) (ev : Event)
    (ps : List LParam) (args : List Val)
    (hq : w.queue = [])
    (hb : w.get ⟨.bnd mv, .out, ev.name⟩ =
          some (.ir (.post ⟨.enc p, .out, ev.name⟩ ps (ps.map (·.name)) (ps.map (·.name))) ev [] []))
    (hc : w.get ⟨.enc p, .out, ev.name⟩ = some (.scripted .comp p ev))
    (hlen : ps.length = args.length) (hnd : (ps.map (·.name)).Nodup) :
    (invoke (n + 1) w ⟨.bnd mv, .out, ev.name⟩ args).1.out = w.out ∧
    (invoke (n + 1) w ⟨.bnd mv, .out, ev.name⟩ args).1.queue.length = 1 ∧
    (invoke (n + 1) w ⟨.bnd mv, .out, ev.name⟩ args).1.posted = w.posted + 1 ∧
    (invoke (n + 1) w ⟨.bnd mv, .out, ev.name⟩ args).1.shellCalls = w.shellCalls ∧
    (drain (n + 3) (invoke (n + 1) w ⟨.bnd mv, .out, ev.name⟩ args).1).1.out =
        C01.obsLine .comp p ev args true :: w.out ∧
    (drain (n + 3) (invoke (n + 1) w ⟨.bnd mv, .out, ev.name⟩ args).1).2 = none := by
  obtain ⟨h1, h2⟩ := C01.requires_out_posted_then_delivered w n mv p ev ps args hq hb hc hlen hnd
  rw [h1, h2]
  exact ⟨rfl, rfl, rfl, rfl, rfl, rfl⟩

/-- …and the by-value capture matters: a posted closure that captured an argument by reference
    is flagged as dangling when the dispatcher runs it (so a generator that forgot the capture
    would make the theorem above false) -/
theorem by_reference_capture_dangles (w : World) (n : Nat) (c : Closure) (rest : List Closure)
    (hq : w.queue = c :: rest) (hd : c.dangling = true) :
    (drain (n + 1) w).2 = some .dangling := by
  rw [← drainR_nil, drainR_cons hq, if_pos hd]

/-- the closure the generator posts captures *every* `in` formal by value, and an out event has
    only `in` formals (assumption A-3): nothing is captured by reference -/
theorem generated_post_captures_by_value (fc : FC) (p : CppPortItf) (as : List Assign)
    (h : rerouteOutEvents fc p = .ok as)
    (hA3 : ∀ ev ∈ outEvents p.dzn.itf, ∀ f ∈ ev.formals, f.dir = .in_) :
    ∀ a ∈ as, ∃ callee ps names, a.rhs = .post callee ps names names := by
  intro a ha
  obtain ⟨ev, hev, ps, -, rfl⟩ := (mapM_bind_pure h).2 a ha
  exact ⟨⟨.enc p.name, .out, ev.name⟩, ps, formalNames ev, by rw [C01.inFormalNames_of_all_in (hA3 ev hev)]⟩

/-- **STS pass-through**: for a port configured single-threaded the accessor target is the wrapped
    component's own port object, no boundary member is created, and the accessor type is `Sts<…>` -/
theorem sts_passthrough (d : DznPortItf) (structName : Str) (sfns : Ids) (p : CppPortItf)
    (hs : d.sem = .sts) (h : createCppPortItf d structName sfns = .ok p) :
    p.target = L "m_encapsulee." ++ d.port.name ∧ p.memberVar = none ∧
    p.accessor.ret.fqn.ids = sfns ++ [L "Sts"] ∧ p.accessor.ret.targ = some { ids := d.itf.fqn, root := true } := by
  obtain ⟨cap, _, h⟩ := bind_ok h
  rw [hs] at h
  cases pure_ok h
  exact ⟨rfl, rfl, rfl, rfl⟩

/-- **accessor type**: `Sts<itf>` iff the port is configured STS, `Mts<itf>` iff MTS (also for the
    per-client accessor of a multi-client port) -/
theorem accessor_type (d : DznPortItf) (structName : Str) (sfns : Ids) (p : CppPortItf)
    (h : createCppPortItf d structName sfns = .ok p) :
    p.accessor.ret.fqn.ids = sfns ++ [if d.sem = .sts then L "Sts" else L "Mts"] ∧
    p.accessor.ret.targ = some { ids := d.itf.fqn, root := true } ∧ p.dzn = d := by
  obtain ⟨cap, _, h⟩ := bind_ok h
  cases hs : d.sem with
  | sts => rw [hs] at h; cases pure_ok h; exact ⟨rfl, rfl, rfl⟩
  | mts =>
    rw [hs] at h
    cases hm : d.mc <;> rw [hm] at h <;> cases pure_ok h <;> exact ⟨rfl, rfl, rfl⟩

/-- **partition**: every exposed port is in exactly one of the two groups -/
theorem partition (ps : List CppPortItf) : (mtsPorts ps ++ stsPorts ps).Perm ps := by
  unfold mtsPorts stsPorts
  have : (ps.filter (fun p => decide (p.dzn.sem = .sts))) = ps.filter (fun p => !decide (p.dzn.sem = .mts)) := by
    apply List.filter_congr
    intro p _
    cases p.dzn.sem <;> simp
  rw [this]
  exact List.filter_append_perm _ ps

end C02
