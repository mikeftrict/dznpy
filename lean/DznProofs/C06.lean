/-
  C06 — Generated files form valid, self-contained C++.   (**partial**)
  No executable model can express "g++ accepts this translation unit"; the structural obligations
  the statement decomposes into are proved here on the byte-exact generator model (and on the
  translated header texts); compiler acceptance itself is sampled by the check.
-/
import DznModel.ShellBuild
import DznModel.SpecText
import DznProofs.Lemmas.Build
import DznProofs.C20
open Text Scoping Ast Shell Support CppGen Lem

namespace C06

/-- a successful build returns exactly eight files: header, source and the six support files -/
theorem eight_files (fc : FC) (cfg : Config) (r : BuildResult) (h : build fc cfg = .ok r) :
    r.files.length = 8 := by
  obtain ⟨_, _, rfl⟩ := build_ok h
  rfl

/-- the support files are named `<prefix ids joined by _>_Dzn_<Name>.hh` -/
theorem support_files_named_by_prefix (pfx : Option Ids) :
    (supportFiles pfx).map (·.filename) =
      Kind.all.map (fun k => (distillateNs pfx).2.2 ++ k.fileSuffix) := by
  simp [supportFiles, createHeader, Kind.all]

theorem projIncludes_are_kinds (k : Kind) :
    ∀ x ∈ k.projIncludes, ∃ k' ∈ Kind.all, k'.fileSuffix = L "_" ++ (x ++ L ".hh") := by
  cases k <;> decide +kernel

/-- **include closure (support headers)**: every project include of a support header names another
    support header of the same prefix (checked on the *translated, current* include tables) -/
theorem include_closure_support (pfx : Option Ids) (k : Kind) :
    ∀ x ∈ k.projIncludes,
      ((distillateNs pfx).2.2 ++ L "_" ++ x ++ L ".hh") ∈ (supportFiles pfx).map (·.filename) := by
  intro x hx
  obtain ⟨k', hk', e⟩ := projIncludes_are_kinds k x hx
  rw [support_files_named_by_prefix, List.append_assoc, List.append_assoc, ← e]
  exact List.mem_map.mpr ⟨k', hk', rfl⟩

/-- **named scope (partial)**: for an encapsulee inside a namespace the opener of the namespace
    block names that namespace — it is not the unnamed `namespace {`.  (For the global scope the
    generator does emit `namespace {`: finding D-8, see `named_scope_witness`.) -/
theorem named_scope_partial (ns : Ids) (hne : ns ≠ []) :
    L "namespace" ++ nsSuffix ns ++ L " {" ≠ L "namespace {" := by
  intro h
  cases ns with
  | nil => exact hne rfl
  | cons a b =>
    -- `namespace` ++ ` ` ++ X ++ ` {` has at least twelve characters, `namespace {` has eleven
    have := congrArg List.length h
    simp [nsSuffix] at this

/-- the recorded finding D-8, proved: the global scope yields an unnamed namespace -/
theorem named_scope_witness (t : TB) (hl : t.lines ≠ []) (ht : ∀ l ∈ t.header ++ t.lines, Spec.breakFree l = true) :
    (namespaceBlock [] t).lines.head? = some (L "namespace {") := by
  have := (C20.namespace_balanced [] t (by decide) ht).1 hl
  rw [this]; rfl

theorem Kind.mem_all (k : Kind) : k ∈ Kind.all := by cases k <;> decide

theorem createHeader_mem {k : Kind} {pfx : Option Ids} :
    (createHeader k pfx).filename ∈ (supportFiles pfx).map (·.filename) :=
  List.mem_map.mpr ⟨_, List.mem_map.mpr ⟨k, Kind.mem_all k, rfl⟩, rfl⟩

/-- **include closure (shell header)**: every quoted include of the shell header names the
    Dezyne-generated header of the model file or one of the returned support files -/
theorem include_closure_shell (cfg : Config) (orig : Str) :
    ∀ x ∈ shellProjectIncludes cfg orig,
      x = orig ++ L ".hh" ∨ x ∈ (supportFiles cfg.pfx).map (·.filename) := by
  intro x hx
  unfold shellProjectIncludes at hx
  rcases List.mem_append.mp hx with hx | hx
  · rcases List.mem_cons.mp hx with rfl | hx
    · exact .inl rfl
    · cases List.mem_singleton.mp hx
      exact .inr (createHeader_mem)
  · refine .inr ?_
    revert hx
    refine iteInduction (motive := fun l => x ∈ l → _) (fun _ hx => ?_) (fun _ hx => nomatch hx)
    rcases List.mem_cons.mp hx with rfl | hx
    · exact createHeader_mem
    · cases List.mem_singleton.mp hx
      exact createHeader_mem

/-- … and a multi-client shell does include the log and selector headers, a plain one does not -/
theorem shell_includes_selector_iff (cfg : Config) (orig : Str) :
    (createHeader .multiClientSelector cfg.pfx).filename ∈ shellProjectIncludes cfg orig ↔
      cfg.ports.multiclient.isSome = true ∨
        (createHeader .multiClientSelector cfg.pfx).filename = orig ++ L ".hh" ∨
        (createHeader .multiClientSelector cfg.pfx).filename = (createHeader .strictPort cfg.pfx).filename := by
  unfold shellProjectIncludes
  cases h : cfg.ports.multiclient.isSome <;> simp

end C06
