/-
  C04 — A multi-client port delivers out-events only to the client holding the claim.  (**partial**
  while the recorded finding D-9 stands: `Deselect(id)` clears a selection held by another client)
-/
import DznModel.Sem
import DznProofs.Lemmas.Basic
import DznProofs.Lemmas.Sem
import DznProofs.Lemmas.Build
import DznProofs.SemReact
open Py Ast PortSel Shell Sem Lem SemReact

namespace C04

/-- the client-visible operations on a multi-client port -/
inductive Op
  | claim (c : Str) (granted : Bool)     -- claim by client c, answered with / without the granting reply
  | release (c : Str)
  deriving Repr, DecidableEq

/-- what the generated handlers do to the selector (`mcClaim` → `Select`, `mcRelease` → `Deselect`) -/
def selStep (s : Selector) : Op → Selector
  | .claim c true => s.select c
  | .claim _ false => s
  | .release c => s.deselect c

/-- the abstract specification: the holder is the client whose most recent claim was granted and
    who has not released since -/
def specStep (h : Option Str) : Op → Option Str
  | .claim c true => some c
  | .claim _ false => h
  | .release c => if h = some c then none else h

/-- no client releases while *another* client holds the claim -/
def NoForeignRelease : Option Str → List Op → Prop
  | _, [] => True
  | h, op :: ops =>
    (match op with
     | .release c => h = none ∨ h = some c
     | _ => True) ∧ NoForeignRelease (specStep h op) ops

def clientsOf : List Op → List Str
  | [] => []
  | .claim c _ :: r => c :: clientsOf r
  | .release c :: r => c :: clientsOf r

/-- stated with `clientsOf [op]` so that its users need not split on the kind of `op` -/
theorem clientsOf_cons {op : Op} {r : List Op} {P : Str → Prop} (h : ∀ c ∈ clientsOf (op :: r), P c) :
    (∀ c ∈ clientsOf [op], P c) ∧ ∀ c ∈ clientsOf r, P c := by
  cases op <;> exact ⟨fun c hc => h c (List.mem_cons.mpr (.inl (List.mem_singleton.mp hc))),
    fun c hc => h c (List.mem_cons_of_mem _ hc)⟩

/-- a claim that is answered otherwise never changes who is selected -/
theorem claim_not_granted_keeps_selection (s : Selector) (c : Str) :
    selStep s (.claim c false) = s := rfl

/-- **soundness**: whoever the specification names as holder got there through a claim of its own
    that was answered with the granting reply -/
theorem sound (h : Option Str) (ops : List Op) (c : Str) (hsel : ops.foldl specStep h = some c)
    (hh : h ≠ some c) : Op.claim c true ∈ ops := by
  induction ops generalizing h with
  | nil => exact absurd hsel hh
  | cons op r ih =>
    by_cases hm : specStep h op = some c
    · -- only a granted claim of `c` makes `c` the holder
      rcases op with ⟨c', _ | _⟩ | c'
      · exact absurd hm hh
      · cases hm; exact List.mem_cons_self
      · by_cases hr : h = some c'
        · rw [specStep, if_pos hr] at hm; cases hm
        · rw [specStep, if_neg hr] at hm; exact absurd hm hh
    · exact List.mem_cons_of_mem _ (ih (specStep h op) hsel hm)

/-- **the recorded finding D-9, proved**: with the current `Deselect`, the history
    [claim A → granted, release B] leaves nobody selected although A still holds the claim -/
theorem foreign_release_witness :
    let s : Selector := { mv := L "m_ppApi", port := L "api", clients := [L "A", L "B"] }
    let h := [Op.claim (L "A") true, Op.release (L "B")]
    (h.foldl selStep s).selected = none ∧ h.foldl specStep s.selected = some (L "A") := by
  decide

/-- with no client selected the out-event handler delivers to nobody (what it does with a selected
    client: `deliver_to_selected` in `C04Gen`) -/
theorem deliver_to_selected_only (w : World) (n : Nat) (mv evName : Str) (ev : Event) (ps : List LParam)
    (args : List Val) (slot : RSlot) (sel : Selector)
    (hs : w.get slot = some (.ir (.mcDeliver mv evName ps (ps.map (·.name))) ev [] []))
    (hsel : w.selector mv = some sel) (hnone : sel.selected = none) :
    invoke (n + 1) w slot args = (w, .ok none args) := by
  rw [← invokeR_nil, invokeR_mcDeliver hs]
  simp only [hsel, hnone]

theorem eventEq_refl (e : Event) : eventEq e e = true := by
  unfold eventEq
  rw [List.zip, List.zipWith_self, List.all_map]
  simp

theorem eventEq_name {a b : Event} (h : eventEq a b = true) : a.name = b.name := by
  unfold eventEq at h
  simp only [Bool.and_eq_true, decide_eq_true_eq] at h
  exact h.1.1.1.1

/-- the assignment for one in-event of the multi-client port: what `initializePortAssigns` maps over the
    in-events of the interface -/
def initAssignOf (fc : FC) (p : CppPortItf) (mc : McFixture) (ev : Event) : R Assign := do
  if eventEq ev mc.claimEvent then
    let ps ← lambdaParamsOf fc p.dzn.itf mc.claimEvent true
    pure { lhs := { obj := .local_, dir := .in_, ev := mc.claimEvent.name },
           rhs := .mcClaim p.target mc.claimEvent.name ps (formalNames mc.claimEvent)
                    (CppGen.Fqn.str { ids := mc.grant, root := true }) }
  else if eventEq ev mc.releaseEvent then
    let ps ← lambdaParamsOf fc p.dzn.itf mc.releaseEvent true
    pure { lhs := { obj := .local_, dir := .in_, ev := mc.releaseEvent.name },
           rhs := .mcRelease p.target mc.releaseEvent.name mc.releaseEvent.name ps (formalNames mc.releaseEvent) }
  else
    pure { lhs := { obj := .local_, dir := .in_, ev := ev.name },
           rhs := .ref { obj := (if p.isMc then PortObj.arb p.target else .bnd p.target), dir := .in_, ev := ev.name } }

section
variable {fc : FC} {p : CppPortItf} {mc : McFixture} {ev : Event} {a : Assign}

theorem initAssignOf_ok (h : initAssignOf fc p mc ev = .ok a) :
    (eventEq ev mc.claimEvent = true ∧ ∃ ps, lambdaParamsOf fc p.dzn.itf mc.claimEvent true = .ok ps ∧
      a = ⟨⟨.local_, .in_, mc.claimEvent.name⟩,
           .mcClaim p.target mc.claimEvent.name ps (formalNames mc.claimEvent) (CppGen.Fqn.str { ids := mc.grant, root := true })⟩) ∨
    (eventEq ev mc.claimEvent ≠ true ∧ eventEq ev mc.releaseEvent = true ∧
      ∃ ps, lambdaParamsOf fc p.dzn.itf mc.releaseEvent true = .ok ps ∧
      a = ⟨⟨.local_, .in_, mc.releaseEvent.name⟩,
           .mcRelease p.target mc.releaseEvent.name mc.releaseEvent.name ps (formalNames mc.releaseEvent)⟩) ∨
    (eventEq ev mc.claimEvent ≠ true ∧ eventEq ev mc.releaseEvent ≠ true ∧
      a = ⟨⟨.local_, .in_, ev.name⟩, .ref ⟨if p.isMc then .arb p.target else .bnd p.target, .in_, ev.name⟩⟩) := by
  unfold initAssignOf at h
  by_cases hc : eventEq ev mc.claimEvent = true
  · rw [if_pos hc] at h
    obtain ⟨ps, hps, h⟩ := bind_ok h
    exact .inl ⟨hc, ps, hps, (pure_ok h).symm⟩
  · rw [if_neg hc] at h
    by_cases hr : eventEq ev mc.releaseEvent = true
    · rw [if_pos hr] at h
      obtain ⟨ps, hps, h⟩ := bind_ok h
      exact .inr (.inl ⟨hc, hr, ps, hps, (pure_ok h).symm⟩)
    · rw [if_neg hr] at h
      exact .inr (.inr ⟨hc, hr, (pure_ok h).symm⟩)

theorem initAssignOf_lhs (h : initAssignOf fc p mc ev = .ok a) : a.lhs = ⟨.local_, .in_, ev.name⟩ := by
  obtain ⟨hc, _, _, rfl⟩ | ⟨_, hr, _, _, rfl⟩ | ⟨_, _, rfl⟩ := initAssignOf_ok h
  · rw [eventEq_name hc]
  · rw [eventEq_name hr]
  · rfl

theorem initAssignOf_claim (h : initAssignOf fc p mc mc.claimEvent = .ok a) :
    ∃ ps, lambdaParamsOf fc p.dzn.itf mc.claimEvent true = .ok ps ∧
      a.rhs = .mcClaim p.target mc.claimEvent.name ps (formalNames mc.claimEvent) (CppGen.Fqn.str { ids := mc.grant, root := true }) := by
  obtain ⟨_, ps, hps, rfl⟩ | ⟨hc, _⟩ | ⟨hc, _⟩ := initAssignOf_ok h
  · exact ⟨ps, hps, rfl⟩
  · exact absurd (eventEq_refl _) hc
  · exact absurd (eventEq_refl _) hc

theorem initAssignOf_release (hne : mc.releaseEvent.name ≠ mc.claimEvent.name) (h : initAssignOf fc p mc mc.releaseEvent = .ok a) :
    ∃ ps, lambdaParamsOf fc p.dzn.itf mc.releaseEvent true = .ok ps ∧
      a.rhs = .mcRelease p.target mc.releaseEvent.name mc.releaseEvent.name ps (formalNames mc.releaseEvent) := by
  obtain ⟨hc, _⟩ | ⟨_, _, ps, hps, rfl⟩ | ⟨_, hr, _⟩ := initAssignOf_ok h
  · exact absurd (eventEq_name hc) hne
  · exact ⟨ps, hps, rfl⟩
  · exact absurd (eventEq_refl _) hr

end

/-- **names from the configuration**: the per-client claim and release handlers call exactly the
    configured events of the arbitered port, whatever they are called -/
theorem names_from_configuration (fc : FC) (p : CppPortItf) (mc : McFixture) (as : List Assign)
    (h : initializePortAssigns fc p mc = .ok as) :
    ∀ a ∈ as,
      (∀ mv e ps args g, a.rhs = .mcClaim mv e ps args g → e = mc.claimEvent.name ∧ a.lhs.ev = mc.claimEvent.name) ∧
      (∀ mv e ce ps args, a.rhs = .mcRelease mv e ce ps args →
          ce = mc.releaseEvent.name ∧ a.lhs.ev = mc.releaseEvent.name) := by
  intro a ha
  obtain ⟨ev, _, hf⟩ := mapM_mem h a ha
  obtain ⟨_, _, _, rfl⟩ | ⟨_, _, _, _, rfl⟩ | ⟨_, _, rfl⟩ := initAssignOf_ok hf
  · exact ⟨fun _ _ _ _ _ he => (by cases he; exact ⟨rfl, rfl⟩), nofun⟩
  · exact ⟨nofun, fun _ _ _ _ _ he => by cases he; exact ⟨rfl, rfl⟩⟩
  · exact ⟨nofun, nofun⟩

/-- **invalid multi-client settings are configuration errors** -/
theorem cfg_checked (c : MultiClientCfg) (port : Str) (itf : InterfaceD) (fc : FC) (hp : port = c.portName) :
    -- unknown claim event
    ((itf.events.filter (fun e => e.name = c.claimEvent)) = [] →
        checkMulticlientCfg (some c) port itf fc = mcErr) ∧
    -- every failure of the check is the library's multi-client configuration error (or, for an
    -- empty granting value which the constructor already refuses, unreachable)
    (c.grant ≠ [] → ∀ e, checkMulticlientCfg (some c) port itf fc = .error e → e = .lib .MultiClientCfgError) := by
  constructor
  · intro h
    simp [checkMulticlientCfg, hp, h]
  · intro hg
    exact fun _ h => checkMulticlientCfg_error (fun _ hm => Option.some.inj hm ▸ hg) h

end C04
