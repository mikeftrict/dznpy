/-
  C02 (continued) — the runtime semantics a port was configured with, for the shell `Builder.build`
  generates (corollaries of the end-to-end statements of `C01Gen`, plus the single-threaded case).
-/
import DznModel.Sem
import DznProofs.C01Gen
open Scoping Ast Shell Sem Lem

namespace C02

/-- **multi-threaded provides port, at the level of `Builder.build`**: a client's in-event goes
    through `dzn::shell` exactly once (`shellCalls + 1`) and the component observes it *in
    dispatcher context* (`disp=1`); the caller gets the reply only after the dispatcher has run it
    (the result of `invoke` carries it) -/
theorem build_mts_in_event_in_dispatcher (fc : FC) (cfg : Config) (b : BuildResult) (h : build fc cfg = .ok b)
    (p : CppPortItf) (hp : p ∈ b.ir.provides) (hsem : p.dzn.sem = .mts) (hmc : p.isMc = false)
    (ev : Event) (hev : ev ∈ inEvents p.dzn.itf)
    (hinj : ∀ q ∈ b.ir.provides ++ b.ir.requires, q.target = p.target → q = p)
    (hnames : ∀ q ∈ b.ir.requires, q.name ≠ p.name)
    (hevu : ∀ e ∈ p.dzn.itf.events, e.name = ev.name → evDirOf e = .in_ → e = ev)
    (hfn : (ev.formals.map (·.name)).Nodup) (hu : C01.UniqueEvents b.allPorts)
    (pump runtime : Bool) (name : Str) (extra : Bool) (n : Nat)
    (hf : ctorCheck b.ir pump runtime = none)
    (args : List Val) (hlen : ev.formals.length = args.length) :
    ∃ w, construct b.ir b.allPorts b.grantIndex pump runtime none name extra = .ok w ∧
      let r := invoke (n + 3) w ⟨.bnd p.target, .in_, ev.name⟩ args
      r.1.shellCalls = w.shellCalls + 1 ∧ r.1.posted = w.posted ∧
      r.1.out = C01.obsLine .comp p.name ev args true :: w.out ∧
      (∃ vs, r.2 = .ok (if isVoid ev then none else some (w.reply true p.name ev.name)) vs) := by
  obtain ⟨w, ps, hw, _, hi⟩ := C01.build_forwards_in_event fc cfg b h p hp hsem hmc ev hev hinj hnames hevu hfn hu
    pump runtime name extra n hf args hlen
  refine ⟨w, hw, ?_⟩
  rw [hi]
  exact ⟨rfl, rfl, rfl, _, rfl⟩

/-- **multi-threaded requires port, at the level of `Builder.build`**: an out-event raised by a
    peer returns immediately — nothing is observed, nothing ran — after queueing a closure that owns
    copies of the arguments (`dangling = false`); it is the dispatcher that later runs it
    (`disp=1`) -/
theorem build_mts_requires_out_queued (fc : FC) (cfg : Config) (b : BuildResult) (h : build fc cfg = .ok b)
    (p : CppPortItf) (hp : p ∈ b.ir.requires) (hsem : p.dzn.sem = .mts)
    (ev : Event) (hev : ev ∈ outEvents p.dzn.itf)
    (hinj : ∀ q ∈ b.ir.provides ++ b.ir.requires, q.target = p.target → q = p)
    (hnames : ∀ q ∈ b.ir.provides, q.name ≠ p.name)
    (hevu : ∀ e ∈ p.dzn.itf.events, e.name = ev.name → evDirOf e = .out → e = ev)
    (hfn : (ev.formals.map (·.name)).Nodup) (hallin : ∀ f ∈ ev.formals, f.dir = .in_)
    (hu : C01.UniqueEvents b.allPorts)
    (pump runtime : Bool) (name : Str) (extra : Bool) (n : Nat)
    (hf : ctorCheck b.ir pump runtime = none)
    (args : List Val) (hlen : ev.formals.length = args.length) :
    ∃ w, construct b.ir b.allPorts b.grantIndex pump runtime none name extra = .ok w ∧
      let r := invoke (n + 1) w ⟨.bnd p.target, .out, ev.name⟩ args
      r.2 = .ok none args ∧ r.1.out = w.out ∧ r.1.executed = w.executed ∧ r.1.posted = w.posted + 1 ∧
      r.1.queue = [{ callee := ⟨.enc p.name, .out, ev.name⟩, args := args, dangling := false }] ∧
      (drain (n + 3) r.1).1.out = C01.obsLine .comp p.name ev args true :: w.out := by
  obtain ⟨w, hw, hi, hd⟩ := C01.build_forwards_requires_out fc cfg b h p hp hsem ev hev hinj hnames hevu hfn hallin hu
    pump runtime name extra n hf args hlen
  refine ⟨w, hw, ?_⟩
  rw [hi]
  exact ⟨rfl, rfl, rfl, rfl, rfl, congrArg (·.1.out) hd⟩

/-- no constructor assignment of the generated shell touches a port that is not multi-threaded -/
theorem sts_port_untouched (fc : FC) (sn : Str) (fac : Facilities) (pp rp : List CppPortItf) (sfns : Ids)
    (ctor : CppGen.Constructor) (assigns : List Assign)
    (h : createConstructor fc sn fac pp rp sfns = .ok (ctor, assigns))
    (name : Str) (hn : ∀ q ∈ mtsPorts pp ++ mtsPorts rp, q.name ≠ name) :
    ∀ b ∈ assigns, b.lhs.obj ≠ .enc name := by
  intro b hb he
  have o := C01.assign_of_lhs h hb
  rw [he] at o
  cases hd : b.lhs.dir <;> rw [hd] at o <;> obtain ⟨q, hq, hqn, -⟩ := o
  · exact hn q (List.mem_append_right _ hq) hqn
  · exact hn q (List.mem_append_left _ hq) hqn

/-- **single-threaded port, at the level of `Builder.build`**: the generated constructor leaves
    every event of the port alone, so the accessor's port *is* the component's port: a call on it
    runs the component's handler directly — no `dzn::shell`, nothing posted, not in dispatcher
    context -/
theorem build_sts_port_bypasses_dispatcher (fc : FC) (cfg : Config) (b : BuildResult) (h : build fc cfg = .ok b)
    (port : Port) (itf : InterfaceD) (hpa : (port, itf) ∈ b.allPorts) (ev : Event) (hev : ev ∈ itf.events)
    (hside : C01.compSide port ev)
    (hn : ∀ q ∈ mtsPorts b.ir.provides ++ mtsPorts b.ir.requires, q.name ≠ port.name)
    (hu : C01.UniqueEvents b.allPorts)
    (pump runtime : Bool) (name : Str) (extra : Bool) (n : Nat)
    (hf : ctorCheck b.ir pump runtime = none) (args : List Val) :
    ∃ w, construct b.ir b.allPorts b.grantIndex pump runtime none name extra = .ok w ∧
      invoke (n + 1) w (C01.compSlot port ev) args =
        ((scriptedRun w .comp port.name ev args).1,
         .ok (scriptedRun w .comp port.name ev args).2.1 (scriptedRun w .comp port.name ev args).2.2) ∧
      (scriptedRun w .comp port.name ev args).1.shellCalls = w.shellCalls ∧
      (scriptedRun w .comp port.name ev args).1.posted = w.posted ∧
      (scriptedRun w .comp port.name ev args).1.out = C01.obsLine .comp port.name ev args w.inDispatch :: w.out := by
  obtain ⟨s, ⟨B⟩, rfl⟩ := build_ok h
  obtain ⟨w, hw⟩ : ∃ w, construct s.ir s.allPorts s.grantIndex pump runtime none name extra = .ok w :=
    construct_isOk.mpr hf
  refine ⟨w, hw, ?_, rfl, rfl, rfl⟩
  exact C01.env_to_comp_sts w n port.name ev (evDirOf ev) args <| C01.comp_slot hw hu hpa hev rfl hside fun a ha hl =>
    sts_port_untouched fc _ _ _ _ _ B.ctor _ B.ctorOk port.name hn a ha (congrArg Slot.obj hl)

end C02
