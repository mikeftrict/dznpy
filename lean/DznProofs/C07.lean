/-
  C07 — Names in generated code denote the declaration Dezyne's scoping rules select.
  (property theorems)
  `Spec.denoted` is the specification: the declarations whose fully qualified name lies on the scope
  chain of the referring scope (C14 proves `find_fqn` computes exactly that).  Here: what the build
  does with a written port type / formal type is governed by `denoted` alone — exactly one candidate
  of the right kind is used, anything else is a lookup error — and this holds for every exposed port
  of every successful build.
-/
import DznModel.SpecBuild
import DznProofs.C14
import DznProofs.Lemmas.Build
open Scoping Ast AstView Shell Lem

namespace C07

/-- **C07 (port type)**: the lookup of a port's written type name succeeds with interface `i`
    exactly when `i` is the one and only declaration the name denotes from the referring scope and
    it is an interface -/
theorem port_type_is_the_denoted_interface (fc : FC) (scope : Ids) (p : Port) (i : InterfaceD) :
    getSingle (findFqn fc p.typeName scope) (some isInterface) = .ok (.interface i) ↔
      Spec.portInterface fc scope p = some i := by
  rw [getSingle_ok_iff, C14.find_fqn_spec]
  unfold Spec.portInterface Spec.denoted
  constructor
  · rintro ⟨h, _⟩; rw [h]
  · intro h
    split at h
    next j hj => cases h; exact ⟨hj, rfl⟩
    next => cases h

/-- … and in every other case — no candidate, several candidates along the chain, or a single
    candidate of another kind — the lookup fails with the lookup error instead of picking one -/
theorem port_lookup_error (fc : FC) (scope : Ids) (p : Port) (h : Spec.portInterface fc scope p = none) :
    getSingle (findFqn fc p.typeName scope) (some isInterface) = .error (.lib .FindError) := by
  cases hg : getSingle (findFqn fc p.typeName scope) (some isInterface) with
  | error e => rw [getSingle_error hg]
  | ok d =>
    have hd := getSingle_ok_iff.mp hg
    cases d with
    | interface i => rw [(port_type_is_the_denoted_interface fc scope p i).mp hg] at h; cases h
    | _ => cases hd.2

/-- **C07 (formal type)**: the C++ data type of an event parameter is the `$value$` of the one and
    only declaration its written type denotes from the interface's own scope, which must be an
    extern -/
theorem formal_type_is_the_denoted_extern (fc : FC) (itf : InterfaceD) (f : Formal) (v : Str) :
    formalCType fc itf f = .ok v ↔ Spec.formalType fc itf f = some v := by
  rw [formalCType_ok_iff]
  simp only [getSingle_ok_iff, C14.find_fqn_spec]
  unfold Spec.formalType Spec.denoted
  constructor
  · rintro ⟨e, ⟨he, _⟩, rfl⟩
    rw [he]
  · intro h
    split at h
    next e he => exact ⟨e, ⟨he, rfl⟩, Option.some.inj h⟩
    next => cases h

theorem formal_lookup_error (fc : FC) (itf : InterfaceD) (f : Formal) (h : Spec.formalType fc itf f = none) :
    formalCType fc itf f = .error (.lib .FindError) := by
  cases hg : formalCType fc itf f with
  | ok v => rw [(formal_type_is_the_denoted_extern fc itf f v).mp hg] at h; cases h
  | error e => rw [formalCType_error hg]

/-- every lambda parameter list the shell emits carries, position by position, the denoted types -/
theorem lambda_params_typed (fc : FC) (itf : InterfaceD) (ev : Event) (refs : Bool) (ps : List LParam)
    (h : lambdaParamsOf fc itf ev refs = .ok ps) :
    ps.map (fun p => some p.ctype) = ev.formals.map (Spec.formalType fc itf) := by
  refine map_eq_map_of_mapM (fun f lp hlp => ?_) h
  obtain ⟨ct, hct, hlp⟩ := bind_ok hlp
  cases pure_ok hlp
  exact ((formal_type_is_the_denoted_extern fc itf f ct).mp hct).symm

/-! ### through the build -/

/-- **C07 (every exposed port)**: in the result of `create_dzn_elements` every provides and every
    requires port descriptor carries exactly the interface its written type name denotes from the
    encapsulee's parent scope -/
theorem elements_denote (cfg fc enc de) (h : createDznElements cfg fc enc = .ok de) :
    ∀ d ∈ de.provides ++ de.requires, Spec.portInterface fc enc.parent.fqn d.port = some d.itf := by
  obtain ⟨sems, E⟩ := createDznElements_ok h
  exact fun d hd => (port_type_is_the_denoted_interface _ _ _ _).mp (E.descr hd).2.itf

/-- an unresolvable, ambiguous or wrong-kind port type makes `create_dzn_elements` fail — whatever
    the other ports are and wherever the port stands -/
theorem lookup_errors (cfg fc enc) (hbad : ∃ p ∈ Decl.ports enc, Spec.portInterface fc enc.parent.fqn p = none) :
    ∀ de, createDznElements cfg fc enc ≠ .ok de := by
  intro de h
  obtain ⟨sems, E⟩ := createDznElements_ok h
  obtain ⟨p, hp, hn⟩ := hbad
  obtain ⟨⟨itf, hitf⟩, _⟩ := portLoop_complete E.ports p hp
  rw [port_lookup_error fc _ p hn] at hitf
  cases hitf

/-! ### same-named declarations in unrelated namespaces never influence the result -/

theorem filter_unrelated {α} (p : α → Bool) (l : List α) (x : α) (h : p x = false) :
    (l ++ [x]).filter p = l.filter p := by
  simp [List.filter_append, h]

/-- adding a declaration (of any of the kinds that share simple names: interface, extern, enum)
    whose fully qualified name is not on the scope chain changes nothing about what a name denotes -/
theorem unrelated_declarations_irrelevant (fc : FC) (name scope : Ids) :
    (∀ x : ExternD, x.fqn ∉ Spec.chain name scope →
      Spec.denoted { fc with externs := fc.externs ++ [x] } name scope = Spec.denoted fc name scope) ∧
    (∀ x : InterfaceD, x.fqn ∉ Spec.chain name scope →
      Spec.denoted { fc with interfaces := fc.interfaces ++ [x] } name scope = Spec.denoted fc name scope) ∧
    (∀ x : EnumD, x.fqn ∉ Spec.chain name scope →
      Spec.denoted { fc with enums := fc.enums ++ [x] } name scope = Spec.denoted fc name scope) := by
  refine ⟨?_, ?_, ?_⟩ <;>
  · intro x hx
    simp [Spec.denoted, Spec.findFqnSpec, FC.decls, List.filter_append, Decl.fqn, hx]

/-- … whereas a declaration *on* the chain does: a second candidate makes the reference ambiguous
    and the lookup fails (it is not resolved by proximity) -/
theorem second_candidate_is_an_error (fc : FC) (scope : Ids) (p : Port) (a b : Decl) (rest : List Decl)
    (h : Spec.denoted fc p.typeName scope = a :: b :: rest) :
    getSingle (findFqn fc p.typeName scope) (some isInterface) = .error (.lib .FindError) := by
  apply port_lookup_error
  unfold Spec.portInterface
  rw [h]
  cases a <;> rfl

end C07
