/-
  C14 — Name lookup returns exactly the declarations on the scope chain.
-/
import DznModel.SpecParser
import DznProofs.Lemmas.Scoping
open Scoping Ast AstView

namespace C14

theorem chain_cons (name : Ids) (scope : Ids) (h : scope ≠ []) :
    Spec.chain name scope = (scope ++ name) :: Spec.chain name scope.dropLast := by
  obtain ⟨m, hm⟩ : ∃ m, scope.length = m + 1 := by
    cases scope with
    | nil => exact absurd rfl h
    | cons a b => exact ⟨b.length, rfl⟩
  -- `chain` takes ever shorter prefixes of `scope`: the first is `scope` itself, the i-th of the rest is the i-th of `scope.dropLast`
  unfold Spec.chain
  rw [List.length_dropLast, hm, Nat.add_sub_cancel, List.range_succ_eq_map, List.map_cons, List.map_map,
    Nat.sub_zero, ← hm, List.take_length]
  refine congrArg _ (List.map_congr_left fun i hi => ?_)
  show scope.take (scope.length - (i + 1)) ++ name = scope.dropLast.take (m - i) ++ name
  rw [List.dropLast_eq_take, List.take_take, hm, Nat.add_sub_add_right, Nat.add_sub_cancel,
    Nat.min_eq_left (Nat.sub_le ..)]

/-- **C14 (resolution order)**: the candidates, innermost to outermost -/
theorem order (name scope : Ids) : scopeResolutionOrder name scope = Spec.chain name scope := by
  fun_induction scopeResolutionOrder name scope with
  | case1 scope ih =>
    by_cases h : scope = []
    · rw [dif_pos h, h]; rfl
    · rw [dif_neg h, ih h, chain_cons name scope h]

/-- **C14 (find_fqn)**: exactly the declarations whose fqn lies on the scope chain, in container
    order; imports and file names are not declarations (`FC.decls`) -/
theorem find_fqn_spec (f : FC) (name scope : Ids) :
    findFqn f name scope = Spec.findFqnSpec f name scope := by
  unfold findFqn Spec.findFqnSpec
  rw [order]
  apply List.filter_congr
  simp [List.any_eq]

theorem pyEndsWith_eq (fqn ends : Ids) (h : ends ≠ []) :
    pyEndsWith fqn ends = ends.isSuffixOf fqn := by
  show decide ((if ends.length = 0 then fqn else fqn.drop (fqn.length - ends.length)) = ends) = _
  rw [if_neg (mt List.eq_nil_of_length_eq_zero h), Bool.eq_iff_iff, List.isSuffixOf_iff_suffix,
    List.suffix_iff_eq_drop, decide_eq_true_iff]
  exact eq_comm

/-- **C14 (suffix search)**: exactly the declarations whose qualified name ends with the given
    identifiers (at least one identifier) -/
theorem find_any_spec (f : FC) (ends : Ids) (h : ends ≠ []) :
    findAny f ends = Spec.findAnySpec f ends :=
  List.filter_congr fun d _ => pyEndsWith_eq d.fqn ends h

/-- each declaration at most once and in container order: the result is a sublist -/
theorem each_once (f : FC) (name scope : Ids) : (findFqn f name scope).Sublist f.decls := by
  unfold findFqn; exact List.filter_sublist

theorem validIds_sublist {a b : Ids} (hs : a.Sublist b) (h : validIds b = true) : validIds a = true :=
  List.all_eq_true.mpr fun x hx => List.all_eq_true.mp h x (hs.subset hx)

theorem validIds_dropLast (a : Ids) (h : validIds a = true) : validIds a.dropLast = true :=
  validIds_sublist (List.dropLast_sublist a) h

theorem validIds_flatten {l : List Ids} (h : ∀ s ∈ l, validIds s = true) : validIds (sumIds l) = true :=
  List.all_eq_true.mpr fun x hx =>
    have ⟨s, hs, hx⟩ := List.mem_flatten.mp hx
    List.all_eq_true.mp (h s hs) x hx

theorem namespaceidsT_str (s : Str) : namespaceidsT (.str s) =
    if s.isEmpty then mkIds []
    else if s.contains '.' then mkIds (splitChar '.' s [])
    else if hasColons s then mkIds (splitColons s [])
    else mkIds [s] := rfl

theorem namespaceidsT_str_mkIds (s : Str) : ∃ l, namespaceidsT (.str s) = mkIds l := by
  rw [namespaceidsT_str]
  iterate 3 refine iteInduction (motive := fun x => ∃ l, x = mkIds l) (fun _ => ⟨_, rfl⟩) fun _ => ?_
  exact ⟨_, rfl⟩

/-- every value produced by `+`, `fqn`, `fqn_member_name`, `scope_resolution_order`,
    `namespaceids_t` from valid inputs consists of valid identifiers only -/
theorem valid_ids :
    (∀ l r, mkIds l = .ok r → validIds r = true) ∧
    (∀ a b : Ids, validIds a = true → validIds b = true → validIds (a ++ b) = true) ∧
    (∀ (t : NsTree), (∀ s ∈ t.scopes, validIds s = true) → validIds t.fqn = true) ∧
    (∀ (t : NsTree) (m : Ids), (∀ s ∈ t.scopes, validIds s = true) → validIds m = true →
        validIds (t.fqnMember m) = true) ∧
    (∀ name scope : Ids, validIds name = true → validIds scope = true →
        ∀ q ∈ scopeResolutionOrder name scope, validIds q = true) ∧
    (∀ arg r, (∀ i, arg = .ids i → validIds i = true) → namespaceidsT arg = .ok r → validIds r = true) := by
  have mk : ∀ l r, mkIds l = .ok r → validIds r = true := fun l r h => (Lem.mkIds_ok_iff.1 h).2 ▸ (Lem.mkIds_ok_iff.1 h).1
  have app : ∀ a b : Ids, validIds a = true → validIds b = true → validIds (a ++ b) = true :=
    fun a b ha hb => (List.all_append ..).trans (Bool.and_eq_true_iff.mpr ⟨ha, hb⟩)
  refine ⟨mk, app, fun t h => validIds_flatten h, fun t m h hm => app _ _ (validIds_flatten h) hm, ?_, ?_⟩
  · intro name scope hn hs q hq
    rw [order] at hq
    obtain ⟨i, _, rfl⟩ := List.mem_map.mp hq
    exact app _ _ (validIds_sublist (List.take_sublist ..) hs) hn
  · intro arg r harg h
    cases arg with
    | ids i => cases h; exact harg r rfl
    | strlist l => exact mk _ _ h
    | other => cases h
    | str s =>
      obtain ⟨l, hl⟩ := namespaceidsT_str_mkIds s
      exact mk l r (hl ▸ h)

theorem namespaceidsT_dotted {s : Str} {ids : Ids} (hs : splitChar '.' s [] = ids) (hv : validIds ids = true) :
    namespaceidsT (.str s) = .ok ids := by
  have hmk : mkIds ids = .ok ids := if_pos hv
  have hne : ¬ s.isEmpty = true := fun e => by
    rw [List.isEmpty_iff.mp e] at hs
    subst hs
    cases hv
  rw [namespaceidsT_str, if_neg hne]
  by_cases hd : s.contains '.' = true
  · rw [if_pos hd, hs, hmk]
  · -- without a `.` the string is the one identifier, and an identifier contains no `::` either
    rw [Lem.splitChar_no_sep [] (by simpa using hd)] at hs
    subst hs
    have hc : hasColons s = false :=
      Lem.hasColons_eq_false (Lem.validId_not_mem (List.all_eq_true.mp hv s List.mem_cons_self) (by decide))
    rw [if_neg hd, hc, if_neg Bool.false_ne_true]
    exact hmk

theorem namespaceidsT_colons {s : Str} {ids : Ids} (hs : splitColons s [] = ids) (hv : validIds ids = true)
    (hd : '.' ∉ s) : namespaceidsT (.str s) = .ok ids := by
  have hmk : mkIds ids = .ok ids := if_pos hv
  have hne : ¬ s.isEmpty = true := fun e => by
    rw [List.isEmpty_iff.mp e] at hs
    subst hs
    cases hv
  rw [namespaceidsT_str, if_neg hne, if_neg (by simpa using hd)]
  by_cases hc : hasColons s = true
  · rw [if_pos hc, hs, hmk]
  · rw [Lem.splitColons_no_sep [] (by simpa using hc)] at hs
    subst hs
    rw [if_neg hc]
    exact hmk

/-- **C14 (notations)**: for valid identifiers the list, dotted and `::` notations convert
    losslessly -/
theorem notations (ids : Ids) (h : validIds ids = true) :
    namespaceidsT (.strlist ids) = .ok ids ∧
    namespaceidsT (.str (dotted ids)) = .ok ids ∧
    namespaceidsT (.str (colons ids)) = .ok ids := by
  have hmk : mkIds ids = .ok ids := if_pos h
  cases ids with
  | nil => exact ⟨hmk, hmk, hmk⟩
  | cons a r =>
    -- identifiers contain neither `.` nor `:`, so splitting the joined notation gives them back
    have hv : ∀ x ∈ a :: r, validId x = true := List.all_eq_true.mp h
    have hdot : ∀ x ∈ a :: r, '.' ∉ x := fun x hx => Lem.validId_not_mem (hv x hx) (by decide)
    have hcol : ∀ x ∈ a :: r, ':' ∉ x := fun x hx => Lem.validId_not_mem (hv x hx) (by decide)
    exact ⟨hmk, namespaceidsT_dotted (Lem.splitChar_join hdot) h,
      namespaceidsT_colons (Lem.splitColons_join hcol) h fun hm =>
        (Lem.mem_join hm).elim (by decide) fun ⟨x, hx, hm⟩ => hdot x hx hm⟩

example : scopeResolutionOrder [L "I"] [L "A", L "B"] = [[L "A", L "B", L "I"], [L "A", L "I"], [L "I"]] := by
  decide +kernel

end C14
