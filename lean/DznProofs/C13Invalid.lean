/-
  C13 (the "invalid inputs always fail" half, at the level of `build`) — each class of invalid input
  named in the property makes the *whole build* fail, wherever in the model or the configuration it
  occurs and whatever else is valid: unknown / ambiguous / non-component encapsulee, rejected port
  selection, a port whose type has no unique interface, an exposed port left without semantics,
  invalid multi-client settings, a multi-client port name that is no provides port.
  (`C13.trichotomy` says the failure is one of the library's errors and never partial.)
-/
import DznModel.SpecBuild
import DznProofs.C07
open Py Ast AstView PortSel Shell Lem

namespace C13

theorem build_error_of_shell {fc cfg e} (h : buildShell fc cfg = .error e) : build fc cfg = .error e := by
  unfold build; rw [h]; rfl

/-- unknown encapsulee -/
theorem unknown_encapsulee (fc : FC) (cfg : Config) (h : findFqn fc cfg.encapsulee = []) :
    build fc cfg = .error (.lib .AdvShellError) := by
  apply build_error_of_shell
  unfold buildShell
  rw [h]
  rfl

/-- a name that denotes more than one declaration -/
theorem ambiguous_encapsulee (fc : FC) (cfg : Config) (a b : Decl) (r : List Decl)
    (h : findFqn fc cfg.encapsulee = a :: b :: r) : build fc cfg = .error (.lib .FindError) := by
  apply build_error_of_shell
  unfold buildShell
  rw [h]
  rfl

theorem build_error_of_elements {fc : FC} {cfg : Config} {enc : Decl} {e : PyErr}
    (h : findFqn fc cfg.encapsulee = [enc]) (he : createDznElements cfg fc enc = .error e) :
    build fc cfg = .error e := by
  apply build_error_of_shell
  unfold buildShell
  simp only [h, getSingle, bind, Except.bind, List.isEmpty_cons, Bool.false_eq_true, if_false, he]

/-- a declaration that is neither a component nor a system -/
theorem non_component_encapsulee (fc : FC) (cfg : Config) (enc : Decl)
    (h : findFqn fc cfg.encapsulee = [enc]) (hk : isComponentOrSystem enc = false) :
    build fc cfg = .error (.lib .AdvShellError) := by
  apply build_error_of_elements h
  unfold createDznElements
  rw [hk]
  rfl

/-- the port-name sets `create_dzn_elements` hands to the port selection -/
def provNames (enc : Decl) : List Str := ((Decl.ports enc).filter (·.dir = .provides)).map (·.name) |>.eraseDups
def reqNames (enc : Decl) : List Str := ((Decl.ports enc).filter (·.dir = .requires)).map (·.name) |>.eraseDups

/-- **rejected port selection** (unknown name, name on the wrong side, …: `C03.reject`) -/
theorem selection_rejected (fc : FC) (cfg : Config) (enc : Decl) (e : PyErr)
    (h : findFqn fc cfg.encapsulee = [enc]) (hk : isComponentOrSystem enc = true)
    (hm : cfg.ports.matchAll (provNames enc) (reqNames enc) = .error e) :
    build fc cfg = .error e := by
  apply build_error_of_elements h
  unfold createDznElements
  unfold provNames reqNames at hm
  rw [hk, if_neg (by decide)]
  dsimp only
  rw [hm]
  rfl

theorem build_fails_of {fc : FC} {cfg : Config} {enc : Decl} (h : findFqn fc cfg.encapsulee = [enc])
    (hno : ∀ sems de, Elements cfg fc enc sems de → False) : ∃ e, build fc cfg = .error e := by
  obtain ⟨e, he⟩ : ∃ e, createDznElements cfg fc enc = .error e :=
    error_of_not_ok fun de hde => (createDznElements_ok hde).elim fun sems E => hno sems de E
  exact ⟨e, build_error_of_elements h he⟩

/-- **unresolvable, ambiguous or wrong-kind port type**: any port — exposed or not, first or last —
    whose written type does not denote exactly one interface makes the build fail -/
theorem port_type_unresolved (fc : FC) (cfg : Config) (enc : Decl) (h : findFqn fc cfg.encapsulee = [enc])
    (p : Port) (hp : p ∈ Decl.ports enc) (hn : Spec.portInterface fc enc.parent.fqn p = none) :
    ∃ e, build fc cfg = .error e := by
  obtain ⟨e, he⟩ := error_of_not_ok (C07.lookup_errors cfg fc enc ⟨p, hp, hn⟩)
  exact ⟨e, build_error_of_elements h he⟩

/-- **an exposed port left without semantics** (provides, or requires and not injected) -/
theorem uncovered_port (fc : FC) (cfg : Config) (enc : Decl) (h : findFqn fc cfg.encapsulee = [enc])
    (p : Port) (hp : p ∈ Decl.ports enc) (hexp : p.dir = .provides ∨ p.injected = false)
    (hun : ∀ sems, cfg.ports.matchAll (provNames enc) (reqNames enc) = .ok sems → sems.lookup p.name = none) :
    ∃ e, build fc cfg = .error e := by
  refine build_fails_of h fun sems de E => ?_
  -- the port has a descriptor, and a descriptor has a semantics
  obtain ⟨d, hd, rfl⟩ := (portLoop_complete E.ports p hp).2 hexp
  have := (E.descr hd).2.sem
  rw [hun sems E.selected] at this
  cases this

/-- **invalid multi-client settings**: when the configured port is a provides port of the encapsulee
    and the settings are refused for its interface (unknown claim/release event, claim reply not an
    enum, granting value not a field, release an out-event: `C04.cfg_checked`), the build fails -/
theorem multiclient_invalid (fc : FC) (cfg : Config) (enc : Decl) (h : findFqn fc cfg.encapsulee = [enc])
    (p : Port) (hp : p ∈ Decl.ports enc) (hd : p.dir = .provides)
    (hbad : ∀ itf, Spec.portInterface fc enc.parent.fqn p = some itf →
        ∃ e, checkMulticlientCfg cfg.ports.multiclient p.name itf fc = .error e) :
    ∃ e, build fc cfg = .error e := by
  refine build_fails_of h fun sems de E => ?_
  obtain ⟨d, hdm, rfl⟩ := (portLoop_complete E.ports p hp).2 (.inl hd)
  have D := (E.descr hdm).2
  obtain ⟨e, he⟩ := hbad d.itf ((C07.port_type_is_the_denoted_interface _ _ _ _).mp D.itf)
  rw [D.provides hd] at he
  cases he

/-- **multi-client port name that is not a provides port** (unknown name, or a requires port) -/
theorem multiclient_port_unknown (fc : FC) (cfg : Config) (enc : Decl) (h : findFqn fc cfg.encapsulee = [enc])
    (m : MultiClientCfg) (hm : cfg.ports.multiclient = some m)
    (hno : ∀ p ∈ Decl.ports enc, p.dir = .provides → p.name ≠ m.portName) :
    ∃ e, build fc cfg = .error e := by
  refine build_fails_of h fun sems de E => ?_
  -- some descriptor carries a fixture, and a fixture is only made for the port the settings name
  obtain ⟨d, hdm, hds⟩ := List.any_eq_true.mp (E.mcUsed (by rw [hm]; rfl))
  obtain ⟨hdp, D⟩ := E.descr (List.mem_append_left _ hdm)
  obtain ⟨hdir, m', hm', hpn⟩ := D.mc_isSome_iff.mp hds
  cases hm.symm.trans hm'
  exact hno d.port hdp hdir hpn

/-- **summary**: every class of invalid input the property names makes the build fail -/
theorem invalid_fails (fc : FC) (cfg : Config) :
    (findFqn fc cfg.encapsulee = [] → ∃ e, build fc cfg = .error e) ∧
    (∀ a b r, findFqn fc cfg.encapsulee = a :: b :: r → ∃ e, build fc cfg = .error e) ∧
    (∀ enc, findFqn fc cfg.encapsulee = [enc] →
      (isComponentOrSystem enc = false → ∃ e, build fc cfg = .error e) ∧
      (∀ e, isComponentOrSystem enc = true → cfg.ports.matchAll (provNames enc) (reqNames enc) = .error e →
          build fc cfg = .error e) ∧
      (∀ p ∈ Decl.ports enc, Spec.portInterface fc enc.parent.fqn p = none → ∃ e, build fc cfg = .error e) ∧
      (∀ p ∈ Decl.ports enc, (p.dir = .provides ∨ p.injected = false) →
          (∀ sems, cfg.ports.matchAll (provNames enc) (reqNames enc) = .ok sems → sems.lookup p.name = none) →
          ∃ e, build fc cfg = .error e) ∧
      (∀ p ∈ Decl.ports enc, p.dir = .provides →
          (∀ itf, Spec.portInterface fc enc.parent.fqn p = some itf →
              ∃ e, checkMulticlientCfg cfg.ports.multiclient p.name itf fc = .error e) →
          ∃ e, build fc cfg = .error e) ∧
      (∀ m, cfg.ports.multiclient = some m →
          (∀ p ∈ Decl.ports enc, p.dir = .provides → p.name ≠ m.portName) → ∃ e, build fc cfg = .error e)) :=
  ⟨fun h => ⟨_, unknown_encapsulee fc cfg h⟩,
   fun a b r h => ⟨_, ambiguous_encapsulee fc cfg a b r h⟩,
   fun enc h =>
    ⟨fun hk => ⟨_, non_component_encapsulee fc cfg enc h hk⟩,
     fun e hk hm => selection_rejected fc cfg enc e h hk hm,
     fun p hp hn => port_type_unresolved fc cfg enc h p hp hn,
     fun p hp hexp hun => uncovered_port fc cfg enc h p hp hexp hun,
     fun p hp hd hbad => multiclient_invalid fc cfg enc h p hp hd hbad,
     fun m hm hno => multiclient_port_unknown fc cfg enc h m hm hno⟩⟩

end C13
