/-
  C03 — Port configuration gives every exposed port exactly one semantics or is rejected.
  (property theorems over DznModel.PortSel; the build-level clauses — uncovered exposed port,
  injected ports — are in DznProofs/C03Build.lean over the shell model)
-/
import DznModel.SpecGen
import DznProofs.Lemmas.Basic
open Py PortSel Lem

namespace C03

/-- the model's if/elif chain is the declarative rule: explicitly named first, otherwise the
    covering `all`/`remaining` wildcard -/
theorem semOf_eq_spec (c : SemCfg) (p : Str) : c.semOf p = Spec.sideSem c p := by
  obtain ⟨s, m⟩ := c
  unfold SemCfg.semOf Spec.sideSem
  cases s with
  | names a =>
    cases m with
    | names b => rfl
    | wild w => cases w <;> rfl
  | wild w =>
    cases m with
    | names b => cases w <;> rfl
    | wild w' => cases w <;> cases w' <;> rfl

/-- a dictionary comprehension over a key list, as a function of the key -/
theorem lookup_filterMap {α β : Type} [BEq α] [LawfulBEq α] (f : α → Option β) (l : List α) (p : α) :
    (l.filterMap (fun q => (f q).map (fun s => (q, s)))).lookup p = if l.contains p then f p else none := by
  induction l with
  | nil => rfl
  | cons a r ih =>
    rw [List.filterMap_cons, List.contains_cons]
    cases hpa : p == a with
    | true =>
      cases eq_of_beq hpa
      rw [Bool.true_or, if_pos rfl]
      cases hf : f p with
      | none => rw [Option.map_none, ih, hf]; exact ite_self _
      | some s => exact List.lookup_cons_self
    | false =>
      rw [Bool.false_or, ← ih]
      cases f a with
      | none => rfl
      | some s => exact lookup_cons_ne hpa

theorem lookup_dictUpdate (a b : List (Str × Sem)) (p : Str) :
    (dictUpdate a b).lookup p = match b.lookup p with | some s => some s | none => a.lookup p := by
  unfold dictUpdate
  rw [List.lookup_append]
  cases hb : b.lookup p with
  | some s => rfl
  | none =>
    have hk : (b.map (·.1)).contains p = false := by
      rw [Bool.eq_false_iff, Ne, List.contains_iff_mem, List.mem_map]
      exact fun ⟨kv, hkv, e⟩ => absurd (e ▸ List.lookup_eq_none_iff.mp hb kv hkv) (by simp)
    exact lookup_filter _ a p fun v => by rw [hk]; rfl

theorem matchPorts_lookup {c : SemCfg} {expected : List Str} {m : List (Str × Sem)}
    (h : c.matchPorts expected = .ok m) (p : Str) :
    m.lookup p = if expected.contains p then Spec.sideSem c p else none := by
  unfold SemCfg.matchPorts at h
  cases Except.ok.inj (ite_ok (ite_ok h).2).2
  rw [lookup_filterMap, semOf_eq_spec]

theorem matchAll_lookup {c : PortsCfg} {prov req : List Str} {m : List (Str × Sem)}
    (h : c.matchAll prov req = .ok m) (p : Str) :
    m.lookup p =
      match (if req.contains p then Spec.sideSem c.requires p else none) with
      | some s => some s
      | none => if prov.contains p then Spec.sideSem c.provides p else none := by
  obtain ⟨a, ha, h⟩ := bind_ok h
  obtain ⟨b, hb, h⟩ := bind_ok h
  cases pure_ok h
  rw [lookup_dictUpdate, matchPorts_lookup ha, matchPorts_lookup hb]

/-- **C03 (total)**: when the configuration is accepted and matched, every provides port and
    every requires port gets exactly the semantics the rule prescribes (explicitly named, else the
    covering wildcard), and no other name gets any -/
theorem total (c : PortsCfg) (prov req : List Str) (m : List (Str × Sem))
    (h : c.matchAll prov req = .ok m) (hdisj : ∀ p ∈ prov, p ∉ req) :
    (∀ p ∈ prov, m.lookup p = Spec.sideSem c.provides p) ∧
    (∀ p ∈ req, m.lookup p = Spec.sideSem c.requires p) ∧
    (∀ p, p ∉ prov → p ∉ req → m.lookup p = none) := by
  have key := matchAll_lookup h
  have no : ∀ {l : List Str} {p}, p ∉ l → ¬ l.contains p = true := fun h hc => h (List.contains_iff_mem.mp hc)
  refine ⟨fun p hp => ?_, fun p hp => ?_, fun p h1 h2 => ?_⟩
  · rw [key, if_neg (no (hdisj p hp)), if_pos (List.contains_iff_mem.mpr hp)]
  · rw [key, if_pos (List.contains_iff_mem.mpr hp), if_neg (no fun hpp => hdisj p hpp hp)]
    cases Spec.sideSem c.requires p <;> rfl
  · rw [key, if_neg (no h2), if_neg (no h1)]

/-- **C03 (reject)**: each listed fault makes construction or matching fail with the
    configuration error — and nothing is produced -/
theorem reject :
    -- a selection naming a port the component does not have on that side
    (∀ (c : SemCfg) (expected : List Str) (n : Str),
        n ∈ c.sts.strset ++ c.mts.strset → n ∉ expected → c.matchPorts expected = adv) ∧
    -- a port named under both semantics
    (∀ (s t : List Str) (n : Str), n ∈ s → n ∈ t → mkSemCfg (.names s) (.names t) = adv) ∧
    -- `all` combined with anything but `none`
    (∀ (x : PortSelect), x.isNotEmpty = true →
        mkSemCfg (.wild .all) x = adv ∧ mkSemCfg x (.wild .all) = adv) ∧
    -- mixed semantics among provides ports
    (∀ (p r : SemCfg) (m), p.sts.isNotEmpty = true → p.mts.isNotEmpty = true → mkPortsCfg p r m = adv) ∧
    -- empty selections
    (mkPortSelect (.names []) = adv) ∧ (∀ s, [] ∈ s → mkPortSelect (.names s) = adv) := by
  -- each guard of `mkSemCfg` that fires gives `adv`; a guard that does not fire hands on to the next
  have guard : ∀ {α} {c : Prop} [Decidable c] {y : R α}, (¬ c → y = adv) → (if c then adv else y) = adv :=
    fun h => iteInduction (motive := fun x => x = adv) (fun _ => rfl) h
  refine ⟨fun c expected n hn hne => ?_, fun s t n hs ht => ?_, fun x hx => ⟨?_, ?_⟩, fun p r m h1 h2 => ?_, rfl,
    fun s hs => ?_⟩
  · exact if_pos (List.any_eq_true.mpr ⟨n, hn, by simpa using hne⟩)
  · exact guard fun _ => if_pos (List.any_eq_true.mpr ⟨n, hs, List.contains_iff_mem.mpr ht⟩)
  · exact guard fun _ => guard fun _ => if_pos (by rw [hx]; rfl)
  · exact guard fun _ => guard fun _ => if_pos (by rw [hx]; simp [PortSelect.isWildcardAll])
  · exact if_pos (by rw [h1, h2]; rfl)
  · exact guard fun _ => if_pos (List.contains_iff_mem.mpr hs)

/-- membership-based functions do not see the iteration order of a set -/
theorem contains_perm {a b : List Str} (h : a.Perm b) (p : Str) : a.contains p = b.contains p := h.contains_eq

/-- **C03 (order-free)**: the semantics assigned to a port does not depend on the order in which
    the name sets were built or are iterated -/
theorem order_free (s s' t t' : List Str) (hs : s.Perm s') (ht : t.Perm t') (p : Str) :
    SemCfg.semOf { sts := .names s, mts := .names t } p =
    SemCfg.semOf { sts := .names s', mts := .names t' } p := by
  simp [SemCfg.semOf, PortSelect.strset, hs.mem_iff, ht.mem_iff]

/-- and the matched dictionary, as a lookup function, does not depend on the iteration order of
    the expected port set -/
theorem order_free_expected (c : SemCfg) (e e' : List Str) (h : e.Perm e') (m m' : List (Str × Sem))
    (hm : c.matchPorts e = .ok m) (hm' : c.matchPorts e' = .ok m') (p : Str) :
    m.lookup p = m'.lookup p := by
  rw [matchPorts_lookup hm, matchPorts_lookup hm', contains_perm h p]

/-- a port never gets two semantics: the result is a function of the port name -/
theorem at_most_one (c : PortsCfg) (prov req : List Str) (m : List (Str × Sem))
    (_h : c.matchAll prov req = .ok m) (p : Str) (s s' : Sem)
    (h1 : m.lookup p = some s) (h2 : m.lookup p = some s') : s = s' :=
  Option.some.inj (h1.symm.trans h2)

example : (mkPortsCfg { sts := .wild .none, mts := .wild .all }
    { sts := .names [L "r1"], mts := .wild .remaining }).toOption.isSome = true := by decide

end C03
