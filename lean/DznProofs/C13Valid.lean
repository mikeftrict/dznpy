/-
  C13 ("valid inputs always succeed") — a declarative validity predicate on (model, configuration)
  and the theorem that every valid input builds.
-/
import DznModel.SpecBuild
import DznProofs.C13
import DznProofs.C13Invalid
import DznProofs.C07
open Py Ast AstView PortSel Support Shell Lem

namespace C13

def exposed (p : Port) : Bool := p.dir = .provides || !p.injected

/-- what a valid (model, configuration) pair is — stated on the model and the configuration only:
    * the encapsulee name denotes exactly one declaration, a component or system, whose ports have
      (non-empty) names;
    * the port selection is accepted for the encapsulee's port names and gives every exposed port a
      semantics;
    * every port's written type denotes exactly one interface;
    * the multi-client settings (if any) are accepted for the provides port they name, that port
      exists, and it is configured MTS;
    * every event parameter of every exposed MTS port's interface denotes exactly one extern type;
    * the shell's name is not empty. -/
structure Valid (fc : FC) (cfg : Config) where
  enc : Decl
  found : findFqn fc cfg.encapsulee = [enc]
  kind : isComponentOrSystem enc = true
  names : ∀ p ∈ Decl.ports enc, p.name ≠ []
  sems : List (Str × Sem)
  selected : cfg.ports.matchAll (provNames enc) (reqNames enc) = .ok sems
  covered : ∀ p ∈ Decl.ports enc, exposed p = true → (sems.lookup p.name).isSome = true
  typed : ∀ p ∈ Decl.ports enc, (Spec.portInterface fc enc.parent.fqn p).isSome = true
  mcOk : ∀ p ∈ Decl.ports enc, p.dir = .provides → ∀ i, Spec.portInterface fc enc.parent.fqn p = some i →
      ∃ r, checkMulticlientCfg cfg.ports.multiclient p.name i fc = .ok r ∧
        (r.isSome = true → sems.lookup p.name = some .mts)
  mcPort : ∀ m, cfg.ports.multiclient = some m →
      ∃ p ∈ Decl.ports enc, p.dir = .provides ∧ p.name = m.portName
  formals : ∀ p ∈ Decl.ports enc, ∀ i, Spec.portInterface fc enc.parent.fqn p = some i →
      sems.lookup p.name = some .mts → ∀ ev ∈ i.events, ∀ f ∈ ev.formals, (Spec.formalType fc i f).isSome = true
  named : getBasename cfg.dezyneFilename ++ cfg.suffix ≠ []

/-! ### the exposed ports -/

theorem processPort_succeeds {fc cfg} (v : Valid fc cfg) {p : Port} (hp : p ∈ Decl.ports v.enc) {acc} :
    FailsIn (fun _ => False) (processPort cfg fc v.enc.parent.fqn v.sems acc p) := by
  obtain ⟨i, hi⟩ := Option.isSome_iff_exists.mp (v.typed p hp)
  have hgs := (C07.port_type_is_the_denoted_interface fc _ p i).mpr hi
  cases hd : p.dir with
  | provides =>
    obtain ⟨mc, hmc, hmts⟩ := v.mcOk p hp hd i hi
    obtain ⟨s, hs⟩ := Option.isSome_iff_exists.mp (v.covered p hp (by simp [exposed, hd]))
    exact .of_ok (processPort_provides hgs hd hmc hs fun hm => Option.some.inj ((hmts hm).symm.trans hs).symm)
  | requires =>
    cases hinj : p.injected with
    | true => exact .of_ok (processPort_injected hgs hd hinj)
    | false =>
      obtain ⟨s, hs⟩ := Option.isSome_iff_exists.mp (v.covered p hp (by simp [exposed, hinj]))
      exact .of_ok (processPort_requires hgs hd hinj hs)

theorem elements_succeed {fc cfg} (v : Valid fc cfg) : ∃ de, createDznElements cfg fc v.enc = .ok de := by
  obtain ⟨⟨pp, rp⟩, hr⟩ :
      ∃ r, (Decl.ports v.enc).foldlM (processPort cfg fc v.enc.parent.fqn v.sems) ([], []) = .ok r :=
    FailsIn.succeeds <| .foldlM fun _ _ hp => processPort_succeeds v hp
  refine createDznElements_succeeds v.kind v.selected hr fun hm => ?_
  -- the port the multi-client settings name has a descriptor, on the provides side, and it carries a fixture
  obtain ⟨m, hm⟩ := Option.isSome_iff_exists.mp hm
  obtain ⟨p, hp, hd, hn⟩ := v.mcPort m hm
  obtain ⟨d, hdm, rfl⟩ := (portLoop_complete hr p hp).2 (.inl hd)
  obtain ⟨hD, -, hreq⟩ := portLoop_sound hr
  have hdp : d ∈ pp := (List.mem_append.mp hdm).resolve_right fun h => nomatch hd.symm.trans (hreq d h)
  exact List.any_eq_true.mpr ⟨d, hdp, (hD d hdm).2.mc_isSome_iff.mpr ⟨hd, m, hm, hn⟩⟩

/-! ### C++ port descriptors, the wiring, the files -/

theorem paramsIn_of_typed {fc itf}
    (h : ∀ ev ∈ itf.events, ∀ f ∈ ev.formals, (Spec.formalType fc itf f).isSome = true) :
    ParamsIn (fun _ => False) fc itf := fun ev hev f hf => by
  obtain ⟨v, hv⟩ := Option.isSome_iff_exists.mp (h ev hev f hf)
  exact .of_ok ((C07.formal_type_is_the_denoted_extern fc itf f v).mpr hv)

/-- **C13 (valid inputs always succeed)** -/
theorem valid_succeeds (fc : FC) (cfg : Config) (v : Valid fc cfg) : ∃ r, build fc cfg = .ok r := by
  obtain ⟨de, hde⟩ := elements_succeed v
  obtain ⟨sems, E⟩ := createDznElements_ok hde
  cases v.selected.symm.trans E.selected
  have htyped : ∀ d ∈ de.provides ++ de.requires, d.sem = .mts → ParamsIn (fun _ => False) fc d.itf := by
    intro d hd hs
    obtain ⟨hp, D⟩ := E.descr hd
    exact paramsIn_of_typed
      (v.formals d.port hp d.itf ((C07.port_type_is_the_denoted_interface _ _ _ _).mp D.itf) (hs ▸ D.sem))
  have cpp : ∀ {l : List DznPortItf}, (∀ d ∈ l, d ∈ de.provides ++ de.requires) →
      ∃ ps, l.mapM (fun d => createCppPortItf d (shellName cfg) (distillateNs cfg.pfx).1) = .ok ps := fun hl =>
    FailsIn.succeeds <| .mapM fun d hd => createCppPortItf_failsIn (v.names _ (E.descr (hl d hd)).1)
  obtain ⟨pp, hpp⟩ := cpp fun _ => List.mem_append_left _
  obtain ⟨rp, hrp⟩ := cpp fun _ => List.mem_append_right _
  have hmem_pp : ∀ p ∈ pp, p.dzn ∈ de.provides ++ de.requires := fun p hp =>
    List.mem_append_left _ (cppPorts_dzn hpp ▸ List.mem_map_of_mem hp)
  have hmem_rp : ∀ p ∈ rp, p.dzn ∈ de.provides ++ de.requires := fun p hp =>
    List.mem_append_right _ (cppPorts_dzn hrp ▸ List.mem_map_of_mem hp)
  -- the wiring fails nowhere: the parameters of every multi-threaded port's events are typed, and a fixture's
  -- claim and release events are events of its port's interface
  obtain ⟨hi, hhi⟩ : ∃ hi, createHelpers fc pp (distillateNs cfg.pfx).1 (shellName cfg) = .ok hi :=
    FailsIn.succeeds <| createHelpers_failsIn fun p hp mc hmc => by
      have D := (E.descr (hmem_pp p hp)).2
      have ht := htyped p.dzn (hmem_pp p hp) (D.mts (by rw [hmc]; rfl))
      exact initializePortAssigns_failsIn (ht _ (D.fixture_events hmc).1) (ht _ (D.fixture_events hmc).2)
  obtain ⟨ca, hca⟩ : ∃ ca, createConstructor fc (shellName cfg) (createFacilities cfg.origin (shellName cfg)) pp rp
      (distillateNs cfg.pfx).1 = .ok ca :=
    FailsIn.succeeds <| createConstructor_failsIn fun p hp hs =>
      htyped p.dzn ((List.mem_append.mp hp).elim (hmem_pp p) (hmem_rp p)) hs
  exact build_succeeds v.found hde v.named hpp hrp hhi hca

/-! ### the predicate is satisfiable: a component in namespace `N` with one provides port typed by
    an interface whose in-event has an extern-typed parameter; everything MTS -/

def exItf : InterfaceD :=
  { fqn := [L "N", L "I"], parent := { scopes := [[L "N"]] }, trail := { scopes := [[L "N"], [L "I"]] }, name := [L "I"],
    types := [],
    events := [{ name := L "go", replyType := [L "void"], dir := .in_,
                 formals := [{ name := L "a", typeName := [L "T"], dir := .in_ }] }] }

def exPort : Port := { name := L "p", typeName := [L "I"], dir := .provides, formals := [], injected := false }

def exComp : ComponentD :=
  { fqn := [L "N", L "C"], parent := { scopes := [[L "N"]] }, name := [L "C"], ports := [exPort] }

def exFc : FC :=
  { components := [exComp],
    externs := [{ fqn := [L "N", L "T"], parent := { scopes := [[L "N"]] }, name := [L "T"], value := L "int" }],
    interfaces := [exItf] }

def exCfg : Config :=
  { dezyneFilename := L "M.dzn", suffix := L "AdvShell", encapsulee := [L "N", L "C"],
    ports := { provides := { sts := .wild .none, mts := .wild .all },
               requires := { sts := .wild .none, mts := .wild .all } },
    origin := .create, copyright := .str (L "c") }

theorem exPortItf : Spec.portInterface exFc [L "N"] exPort = some exItf := by rfl

theorem exPorts {p : Port} (hp : p ∈ Decl.ports (.component exComp)) : p = exPort := List.mem_singleton.mp hp

def exValid : Valid exFc exCfg where
  enc := .component exComp
  found := by rw [C14.find_fqn_spec]; rfl
  kind := rfl
  names := fun p hp => by cases exPorts hp; exact List.cons_ne_nil _ _
  sems := [(L "p", .mts)]
  selected := by rfl
  covered := fun p hp _ => by cases exPorts hp; rfl
  typed := fun p hp => by cases exPorts hp; rfl
  mcOk := fun p hp hd i hi => ⟨none, rfl, nofun⟩
  mcPort := nofun
  formals := by
    intro p hp i hi _ ev hev f hf
    cases exPorts hp
    cases exPortItf.symm.trans hi
    cases List.mem_singleton.mp hev
    cases List.mem_singleton.mp hf
    rfl
  named := by
    intro h
    cases congrArg List.length h

example : ∃ r, build exFc exCfg = .ok r := valid_succeeds exFc exCfg exValid

end C13
