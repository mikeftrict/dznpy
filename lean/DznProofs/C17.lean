/-
  C17 — Text blocks keep one line per entry and flatten content losslessly.
  Model: DznModel.Text; specification: DznModel.SpecText (C17 section); what it rests on: Lemmas/Text.
-/
import DznProofs.Lemmas.Text
open Py Text Lem

namespace C17

/-- `splitlines` never leaves a boundary character inside a line -/
theorem splitlines_no_break (s : Str) : ∀ l ∈ splitlines s, Spec.breakFree l = true :=
  splitlines_breakFree s

/-- …and loses nothing else: the lines, concatenated, are the string without its boundaries -/
theorem splitlines_join (s : Str) : (splitlines s).flatten = s.filter (fun c => !isBreak c) := by
  -- the filter drops a boundary; any other character goes in front of the first line of the rest
  fun_induction splitlines s with
  | case1 => rfl
  | case2 cs ih => exact ih
  | case3 c cs hno hb ih =>
    rw [List.filter_cons_of_neg (by simp [hb])]
    exact ih
  | case4 c cs hno hb hs ih =>
    rw [List.filter_cons_of_pos (by simpa using hb), ← ih, hs]
    rfl
  | case5 c cs hno hb l' ls hs ih =>
    rw [List.filter_cons_of_pos (by simpa using hb), ← ih, hs]
    rfl

mutual
/-- core: flattening then splitting = the depth-first pieces (nested position) -/
theorem flat_pieces (c : Content) (h : Spec.wfContent c = true) :
    (flatten false c).flatMap itemLines = Spec.pieces c := by
  cases c with
  | str s => exact List.flatMap_singleton ..
  | int i => exact (List.flatMap_singleton ..).trans (itemLines_of_breakFree (intToStr_breakFree i))
  | bool b => exact (List.flatMap_singleton ..).trans (itemLines_of_breakFree (boolToStr_breakFree b))
  | none => rfl
  | list l => exact flat_piecesL l h
  | dict l => exact flat_piecesD l h
  | tb hd ls =>
    exact (flatMap_itemLines_obj _).trans (splitlines_tbStr hd ls (List.all_eq_true.mp (List.all_append.trans h)))
  | comment ls =>
    exact (flatMap_itemLines_obj _).trans (splitlines_tbStr [] _ (commentLines_breakFree ls (List.all_eq_true.mp h)))
  | obj s => exact (flatMap_itemLines_obj s).trans (by cases s <;> rfl)
theorem flat_piecesL (l : List Content) (h : Spec.wfContentL l = true) :
    (flattenList false l).flatMap itemLines = Spec.piecesL l := by
  cases l with
  | nil => rfl
  | cons c cs =>
    obtain ⟨h1, h2⟩ := Bool.and_eq_true_iff.mp h
    show (flatten false c ++ flattenList false cs).flatMap itemLines = Spec.pieces c ++ Spec.piecesL cs
    rw [List.flatMap_append, flat_pieces c h1, flat_piecesL cs h2]
theorem flat_piecesD (l : List (Str × Content)) (h : Spec.wfContentD l = true) :
    (flattenDict false l).flatMap itemLines = Spec.piecesD l := by
  cases l with
  | nil => rfl
  | cons kc cs =>
    obtain ⟨h1, h2⟩ := Bool.and_eq_true_iff.mp h
    show (flatten false kc.2 ++ flattenDict false cs).flatMap itemLines = Spec.pieces kc.2 ++ Spec.piecesD cs
    rw [List.flatMap_append, flat_pieces kc.2 h1, flat_piecesD cs h2]
end

/-- **C17 (lines)**: the lines a content tree contributes to a block are the depth-first,
    left-to-right pieces split at line breaks -/
theorem lines_eq_pieces (c : Content) (h : Spec.wfContent c = true) :
    contentLines c = Spec.piecesTop c := by
  cases c with
  | tb | comment => rfl
  | _ => exact flat_pieces _ h

/-- **C17 (no stored line contains a line break)** — for every content tree whose nested block
    objects respect the invariant themselves; so the invariant is inductive over construction -/
theorem no_break (c : Content) (h : Spec.wfContent c = true) :
    ∀ l ∈ contentLines c, Spec.breakFree l = true := by
  cases c with
  | tb hd ls => exact List.all_eq_true.mp (Bool.and_eq_true_iff.mp h).2
  | comment ls => exact List.all_eq_true.mp h
  | _ => exact flatMap_itemLines_breakFree _

/-- the string form is every header and content line followed by exactly one newline -/
theorem str_spec (t : TB) : t.toStr = Spec.strSpec t.header t.lines := tbStr_eq _ _

/-- feeding a non-empty block's string form back in reproduces the same lines -/
theorem roundtrip (t : TB) (hinv : ∀ l ∈ t.lines, Spec.breakFree l = true) (hne : t.lines ≠ []) :
    (TB.mk' (.str (tbStr [] t.lines))).lines = t.lines := by
  have hs : tbStr [] t.lines ≠ [] := fun e => hne ((tbStr_eq_nil [] _).mp e)
  show [tbStr [] t.lines].flatMap itemLines = _
  rw [List.flatMap_singleton, itemLines_of_ne_nil hs, splitlines_tbStr [] _ hinv]
  rfl

/-- appending is concatenation -/
theorem append_concat (t : TB) (c : Content) (h : Spec.wfContent c = true) :
    (t.append c).lines = t.lines ++ Spec.piecesTop c :=
  congrArg (t.lines ++ ·) (lines_eq_pieces c h)

/-- `+` is concatenation too (given the block invariant) -/
theorem add_concat (t : TB) (c : Content) (hinv : ∀ l ∈ t.lines, Spec.breakFree l = true)
    (h : Spec.wfContent c = true) : (t.add c).lines = t.lines ++ Spec.piecesTop c := by
  rw [← lines_eq_pieces c h]
  exact flatMap_itemLines_id fun l hl => (List.mem_append.mp hl).elim (hinv l) (no_break c h l)

theorem trimFront_eq (ls : List Str) : trimFront ls = ls.dropWhile (·.isEmpty) := by
  induction ls with
  | nil => rfl
  | cons a r ih => cases a <;> simp [trimFront, ih]

/-- trimming removes only leading/trailing blank (empty) lines -/
theorem trim_spec (ls : List Str) (e : Bool) : trimList ls e = Spec.trimSpec ls e := by
  simp only [trimList, Spec.trimSpec, trimFront_eq]

theorem ne_nil_of_mem_ite {s x : Str} (hx : x ∈ if s.isEmpty then [] else [s]) : x ≠ [] := by
  cases s with
  | nil => cases hx
  | cons a t => cases List.mem_singleton.mp hx; exact List.cons_ne_nil _ _

mutual
theorem flatten_true_ne_nil (c : Content) : ∀ x ∈ flatten true c, x ≠ [] := by
  cases c with
  | str | tb | comment | obj => exact fun _ => ne_nil_of_mem_ite
  | int i => exact List.forall_mem_singleton.mpr (intToStr_ne_nil i)
  | bool b => exact List.forall_mem_singleton.mpr (by cases b <;> exact List.cons_ne_nil _ _)
  | none => nofun
  | list l => exact flatten_true_ne_nilL l
  | dict l => exact flatten_true_ne_nilD l
theorem flatten_true_ne_nilL (l : List Content) : ∀ x ∈ flattenList true l, x ≠ [] := by
  cases l with
  | nil => nofun
  | cons c cs =>
    exact fun x hx => (List.mem_append.mp hx).elim (flatten_true_ne_nil c x) (flatten_true_ne_nilL cs x)
theorem flatten_true_ne_nilD (l : List (Str × Content)) : ∀ x ∈ flattenDict true l, x ≠ [] := by
  cases l with
  | nil => nofun
  | cons kc cs =>
    exact fun x hx => (List.mem_append.mp hx).elim (flatten_true_ne_nil kc.2 x) (flatten_true_ne_nilD cs x)
end

theorem flatten_strList (b : Bool) {xs : List Str} (h : ∀ x ∈ xs, x ≠ []) :
    flatten b (strList xs) = xs := by
  show flattenList b (xs.map .str) = xs
  induction xs with
  | nil => rfl
  | cons a r ih =>
    obtain ⟨ha, hr⟩ := List.forall_mem_cons.mp h
    cases a with
    | nil => exact absurd rfl ha
    | cons c cs => simp [flattenList, flatten, ih hr]

theorem piecesL_strs_append (xs : List Str) (rest : List Content) :
    Spec.piecesL (xs.map .str ++ rest) = xs.flatMap Spec.strPieces ++ Spec.piecesL rest := by
  induction xs with
  | nil => rfl
  | cons x xs ih => exact (congrArg (Spec.strPieces x ++ ·) ih).trans (List.append_assoc ..).symm

theorem wfContentL_strs_append (xs : List Str) (rest : List Content) :
    Spec.wfContentL (xs.map .str ++ rest) = Spec.wfContentL rest := by
  induction xs with
  | nil => rfl
  | cons x xs ih => exact ih

theorem pieces_strList (xs : List Str) : Spec.pieces (strList xs) = xs.flatMap Spec.strPieces :=
  (congrArg Spec.piecesL (List.append_nil _).symm).trans ((piecesL_strs_append xs []).trans (List.append_nil _))

theorem wf_strList (xs : List Str) : Spec.wfContent (strList xs) = true :=
  (congrArg Spec.wfContentL (List.append_nil _).symm).trans (wfContentL_strs_append xs [])

theorem strList_lines (xs : List Str) (h : ∀ x ∈ xs, Spec.breakFree x = true) : (TB.mk' (strList xs)).lines = xs :=
  (lines_eq_pieces _ (wf_strList xs)).trans ((pieces_strList xs).trans (flatMap_itemLines_id h))

/-- chunking yields nothing for empty content and content plus appendix otherwise -/
theorem chunk_spec (c ap : Content) (h : Spec.wfContent c = true) :
    (chunk c ap).map (·.lines) = Spec.chunkSpec c ap := by
  unfold chunk Spec.chunkSpec Spec.emptyContent
  cases (flatten true c).isEmpty with
  | true => rfl
  | false =>
    show some ((flatten false c ++ (flatten false (strList _) ++ [])).flatMap itemLines) = _
    rw [List.append_nil, List.flatMap_append, flat_pieces c h, flatten_strList false (flatten_true_ne_nil ap)]
    rfl

theorem chunk_strList_then {xs : List Str} (hxs : ∀ s ∈ xs, s ≠ []) (x ap : Content) (h : Spec.wfContent x = true) :
    (chunk (.list [strList xs, x]) ap).map (·.lines) =
      if xs.isEmpty && Spec.emptyContent x then none
      else some (xs.flatMap Spec.strPieces ++ Spec.pieces x ++ (flatten true ap).flatMap Spec.strPieces) := by
  have hf : flatten true (.list [strList xs, x]) = xs ++ flatten true x := by
    show flatten true (strList xs) ++ (flatten true x ++ []) = _
    rw [List.append_nil, flatten_strList true hxs]
  have hp : Spec.pieces (.list [strList xs, x]) = xs.flatMap Spec.strPieces ++ Spec.pieces x := by
    show Spec.pieces (strList xs) ++ (Spec.pieces x ++ []) = _
    rw [List.append_nil, pieces_strList]
  have hw : Spec.wfContent (.list [strList xs, x]) = true := by
    show (Spec.wfContent (strList xs) && (Spec.wfContent x && true)) = true
    rw [wf_strList, h]; rfl
  have he : (xs ++ flatten true x).isEmpty = (xs.isEmpty && Spec.emptyContent x) := by cases xs <;> rfl
  rw [chunk_spec _ _ hw, Spec.chunkSpec, Spec.emptyContent, hf, hp, he]

/-- `cond_chunk` = its specification (content never filtered, appendix once) -/
theorem cond_chunk_spec (p c e ap : Content) (aon : Bool) (h : Spec.wfContent c = true) (he : Spec.wfContent e = true) :
    (condChunk p c e ap aon).map (·.lines) = Spec.condChunkSpec p c e ap aon := by
  unfold condChunk Spec.condChunkSpec
  have hc : Spec.emptyContent c = (flatten true c).isEmpty := rfl
  cases hce : (flatten true c).isEmpty with
  | false =>
    -- non-empty content: preamble, content, appendix
    simp only [hc, hce, Bool.and_false, Bool.false_eq_true, if_false, Bool.not_false, if_true]
    rw [chunk_strList_then (flatten_true_ne_nil p) c ap h, hc, hce, Bool.and_false]
    rfl
  | true =>
    cases aon with
    | true =>
      -- empty content, all or nothing: the empty-response as it is, or nothing
      simp only [hc, hce, Bool.and_true, if_true]
      cases truthy e with
      | true => exact congrArg some (lines_eq_pieces e he)
      | false => rfl
    | false =>
      -- empty content: the empty-response, flattened, takes its place
      simp only [hc, hce, Bool.false_and, Bool.false_eq_true, if_false, Bool.not_true, if_true]
      rw [chunk_strList_then (flatten_true_ne_nil p) _ ap (wf_strList _), pieces_strList, Spec.emptyContent,
        flatten_strList true (flatten_true_ne_nil e)]

/-- non-vacuity: a concrete nested, well-formed tree with boundaries, blanks and a nested block -/
example : Spec.wfContent (.list [.str (L "a\r\nb"), .none, .str [], .tb [] [L "x", []]]) = true ∧
    contentLines (.list [.str (L "a\r\nb"), .none, .str [], .tb [] [L "x", []]])
      = [L "a", L "b", [], L "x", []] := by decide +kernel

end C17
