/-
  C08 (the hash clause) — `GeneratedContent.hash` is MD5 of the UTF-8 contents: the RFC 1321 test vectors of the MD5
  model, by kernel evaluation.  Alone in its module, over `DznModel.Md5` only: the evaluation takes the kernel some
  seconds and needs nothing of the builder, so it is kept off the import chain of the build-level proofs.
-/
import DznModel.Md5

namespace C08

theorem md5_rfc1321_vectors :
    Md5.md5Hex [] = L "d41d8cd98f00b204e9800998ecf8427e" ∧
    Md5.md5Hex (L "a") = L "0cc175b9c0f1b6a831c399e269772661" ∧
    Md5.md5Hex (L "abc") = L "900150983cd24fb0d6963f7d28e17f72" ∧
    Md5.md5Hex (L "message digest") = L "f96b697d7cb7938d525a2f31aaf161d0" := by
  decide +kernel

end C08
