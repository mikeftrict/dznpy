import DznModel.Sem
import DznModel.SpecRouting  -- for `DecidableEq` of `Shell.Handler` and `Shell.Assign`, derived there
import DznProofs.C04Gen
open Py Ast Shell Sem

deriving instance DecidableEq for Ast.Formal
deriving instance DecidableEq for Ast.Event
deriving instance DecidableEq for Sem.RH
deriving instance DecidableEq for Sem.Selector

namespace C04

/-! ### the hypotheses of the history theorems are satisfiable: component `N.C` with the multi-client
    provides port `p : N.I`; `take` (reply `N.R`, granting value `Ok`) claims, `drop` releases,
    `done` is the out-event; clients `A` and `B` are registered -/

def mcItf : InterfaceD :=
  { fqn := [L "N", L "I"], parent := { scopes := [[L "N"]] }, trail := { scopes := [[L "N"], [L "I"]] }, name := [L "I"],
    types := [],
    events := [{ name := L "take", replyType := [L "R"], dir := .in_, formals := [] },
               { name := L "drop", replyType := [L "void"], dir := .in_, formals := [] },
               { name := L "done", replyType := [L "void"], dir := .out, formals := [] }] }

def mcPort : Port := { name := L "p", typeName := [L "I"], dir := .provides, formals := [], injected := false }

def mcFc : FC :=
  { components := [{ fqn := [L "N", L "C"], parent := { scopes := [[L "N"]] }, name := [L "C"], ports := [mcPort] }],
    enums := [{ fqn := [L "N", L "R"], parent := { scopes := [[L "N"]] }, name := [L "R"], fields := [.str (L "No"), .str (L "Ok")] }],
    interfaces := [mcItf] }

def mcCfg : Config :=
  { dezyneFilename := L "M.dzn", suffix := L "AdvShell", encapsulee := [L "N", L "C"],
    ports := { provides := { sts := .wild .none, mts := .wild .all },
               requires := { sts := .wild .none, mts := .wild .all },
               multiclient := some { portName := L "p", claimEvent := L "take", grant := [L "Ok"], releaseEvent := L "drop" } },
    origin := .create, copyright := .str (L "c") }

def mcB : BuildResult := match build mcFc mcCfg with | .ok b => b | .error _ => default

example : isOk (build mcFc mcCfg) = true := by decide +kernel

def mcP : CppPortItf := mcB.ir.provides.headD default

/-- constructed, clients `A` and `B` registered -/
def mcW : World :=
  match construct mcB.ir mcB.allPorts mcB.grantIndex false false none (L "x") false with
  | .ok w => ((registerClient (registerClient w mcP (L "A")).1 mcP (L "B")).1)
  | .error _ => default

def evTake : Event := { name := L "take", replyType := [L "R"], dir := .in_, formals := [] }
def evDrop : Event := { name := L "drop", replyType := [L "void"], dir := .in_, formals := [] }

instance {w mv p claim release psC psA psR psB bvC bvR g ids} :
    Decidable (McWired w mv p claim release psC psA psR psB bvC bvR g ids) :=
  decidable_of_iff (_ ∧ _ ∧ _ ∧ _ ∧ _ ∧ _ ∧ _ ∧ _ ∧ _ ∧ _ ∧ _ ∧ _ ∧ _)
    ⟨fun ⟨h1, h2, h3, h4, h5, h6, h7, h8, h9, h10, h11, h12, h13⟩ =>
       ⟨h1, h2, h3, h4, h5, h6, h7, h8, h9, h10, h11, h12, h13⟩,
     fun h => ⟨h.clClaim, h.arbClaim, h.compClaim, h.clRelease, h.arbRelease, h.compRelease, h.claimValued,
       h.ndC, h.ndA, h.ndR, h.ndB, h.lenA, h.lenB⟩⟩

theorem mcW_facts :
    mcW.queue = [] ∧ mcW.grantIndex = some 1 ∧
    mcW.selector (L "m_ppP") = some { mv := L "m_ppP", port := L "p", clients := [L "A", L "B"] } ∧
    McWired mcW (L "m_ppP") (L "p") evTake evDrop [] [] [] [] [] [] (L "::N::R::Ok") [L "A", L "B"] := by
  decide +kernel

example : mcW.queue = [] := mcW_facts.1
example : mcW.grantIndex = some 1 := mcW_facts.2.1
example : (mcW.selector (L "m_ppP")).map (·.clients) = some [L "A", L "B"] := congrArg _ mcW_facts.2.2.1

theorem mc_wired : McWired mcW (L "m_ppP") (L "p") evTake evDrop [] [] [] [] [] [] (L "::N::R::Ok") [L "A", L "B"] :=
  mcW_facts.2.2.2

/-- the history: `A` claims and is granted, `B` claims and is refused -/
def mcOps : List ClientOp := [.claim (L "A") 1 [], .claim (L "B") 0 []]

/-- **non-vacuity of `history_holder`**: on the worked shell, after that history — executed through
    the generated wrappers — the selected client is `A` -/
theorem mc_example :
    ∃ s', (mcOps.foldl (runOp 0 (L "m_ppP") (L "p") evTake evDrop) mcW).selector (L "m_ppP") = some s' ∧
      s'.selected = some (L "A") := by
  have hops : ∀ (P : ClientOp → Prop), P (.claim (L "A") 1 []) → P (.claim (L "B") 0 []) → ∀ op ∈ mcOps, P op :=
    fun P hA hB op hop => by
      rcases List.mem_cons.mp hop with rfl | hop
      · exact hA
      · cases List.mem_singleton.mp hop; exact hB
  obtain ⟨s', h1, h2⟩ := history_holder 0 (L "m_ppP") (L "p") evTake evDrop [] [] [] [] [] [] (L "::N::R::Ok")
    [L "A", L "B"] 1 mcOps mcW _ mc_wired mcW_facts.1 mcW_facts.2.1 mcW_facts.2.2.1
    (hops _ (by decide) (by decide)) (hops _ rfl rfl) (hops _ (by decide) (by decide)) ⟨trivial, trivial, trivial⟩
  exact ⟨s', h1, h2.trans (by decide)⟩

end C04
