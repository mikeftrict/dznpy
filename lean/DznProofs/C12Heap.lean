/-
  C12 (and C14's "clones the calling scope") on the heap model of the scoping layer: which operations
  write to objects that existed before, which objects are fresh, and that the values agree with the pure
  model the other theorems are about.
-/
import DznModel.ScopingHeap
import DznProofs.Lemmas.Basic
import DznProofs.Lemmas.Scoping
open Py Scoping ScopingHeap Lem

namespace C12

theorem allocAll_cells (h : Heap) (vs : List Ids) : (h.allocAll vs).1.cells = h.cells ++ vs := by
  induction vs generalizing h with
  | nil => exact (List.append_nil _).symm
  | cons v vs ih => exact (ih _).trans (List.append_assoc ..)

theorem allocAll_refs (h : Heap) (vs : List Ids) : (h.allocAll vs).2 = List.range' h.size vs.length := by
  induction vs generalizing h with
  | nil => rfl
  | cons v vs ih =>
    show h.size :: ((h.alloc v).1.allocAll vs).2 = h.size :: List.range' (h.size + 1) vs.length
    rw [ih]
    exact congrArg (fun n => h.size :: List.range' n vs.length) List.length_append

theorem get_eq (h : Heap) (r : Ref) : h.get r = h.cells[r]?.getD [] := List.getD_eq_getElem?_getD

theorem get_allocAll_old (h : Heap) (vs : List Ids) (r : Ref) (hr : r < h.size) :
    (h.allocAll vs).1.get r = h.get r := by
  rw [get_eq, get_eq, allocAll_cells, List.getElem?_append_left hr]

theorem get_allocAll_new (h : Heap) (vs : List Ids) : (h.allocAll vs).2.map (h.allocAll vs).1.get = vs := by
  rw [allocAll_refs]
  apply List.ext_getElem
  · simp
  · intro i h1 h2
    -- the `i`-th new reference is `h.size + i`: past the old cells, at `vs[i]`
    rw [List.getElem_map, List.getElem_range', get_eq, allocAll_cells, Heap.size, Nat.one_mul,
      List.getElem?_append_right (Nat.le_add_right ..), Nat.add_sub_cancel_left, List.getElem?_eq_getElem h2]
    rfl

theorem get_set_same (h : Heap) {a : Ref} (v : Ids) (ha : a < h.size) : (h.set a v).get a = v := by
  rw [get_eq, Heap.set, List.getElem?_set_self ha]
  rfl

theorem get_set_other (h : Heap) {a r : Ref} (v : Ids) (hne : a ≠ r) : (h.set a v).get r = h.get r := by
  rw [get_eq, get_eq, Heap.set, List.getElem?_set_ne hne]

/-! ### one operation -/

theorem step_ok {h h' : Heap} {op : Op} {rs : List Ref} (hs : step h op = .ok (h', rs)) :
    (∃ vs, op.allocates = true ∧ op.mutates = none ∧ h' = (h.allocAll vs).1 ∧ rs = (h.allocAll vs).2) ∨
    (∃ a v, op.allocates = false ∧ op.mutates = some a ∧ h' = h.set a v) ∨
    (op.allocates = false ∧ op.mutates = none ∧ h' = h) := by
  -- an allocating operation is `pure (h.allocAll vs)`, after one step in `R` where the result is validated first
  have alloc : ∀ {vs}, pure (h.allocAll vs) = (.ok (h', rs) : R _) → h' = (h.allocAll vs).1 ∧ rs = (h.allocAll vs).2 :=
    fun hx => ⟨(congrArg Prod.fst (pure_ok hx)).symm, (congrArg Prod.snd (pure_ok hx)).symm⟩
  have bound : ∀ {α} {x : R α} (f : α → List Ids), (x >>= fun a => pure (h.allocAll (f a))) = .ok (h', rs) →
      ∃ vs, h' = (h.allocAll vs).1 ∧ rs = (h.allocAll vs).2 := fun f hx => by
    obtain ⟨a, _, hx⟩ := bind_ok hx
    exact ⟨f a, alloc hx⟩
  cases op with
  | fromList | fromStr | add | fqnMember => exact .inl ((bound ([·]) hs).imp fun _ h => ⟨rfl, rfl, h⟩)
  | sro | sroNone => exact .inl ((bound id hs).imp fun _ h => ⟨rfl, rfl, h⟩)
  | deepcopy a => exact .inl ⟨[h.get a], rfl, rfl, alloc hs⟩
  | sum xs => exact .inl ⟨[sumIds (xs.map h.get)], rfl, rfl, alloc hs⟩
  | fqn t => exact .inl ⟨[sumIds (t.map h.get)], rfl, rfl, alloc hs⟩
  | alias r => exact .inr (.inr ⟨rfl, rfl, (congrArg Prod.fst (pure_ok hs)).symm⟩)
  | iadd a b => exact .inr (.inl ⟨a, _, rfl, rfl, (congrArg Prod.fst (pure_ok hs)).symm⟩)
  | pop a => exact .inr (.inl ⟨a, _, rfl, rfl, (congrArg Prod.fst (pure_ok (ite_ok hs).2)).symm⟩)

/-- **frame**: an operation changes no object that existed before it — except the one object an
    in-place operation (`+=`, `pop`) is applied to -/
theorem step_frame (h h' : Heap) (op : Op) (rs : List Ref) (hs : step h op = .ok (h', rs))
    (r : Ref) (hr : r < h.size) (hm : op.mutates ≠ some r) : h'.get r = h.get r := by
  rcases step_ok hs with ⟨vs, _, _, rfl, _⟩ | ⟨a, v, _, ha, rfl⟩ | ⟨_, _, rfl⟩
  · exact get_allocAll_old h vs r hr
  · exact get_set_other _ _ fun e => hm (e ▸ ha)
  · rfl

/-- the heap never shrinks: objects are never destroyed by an operation -/
theorem step_grows (h h' : Heap) (op : Op) (rs : List Ref) (hs : step h op = .ok (h', rs)) :
    h.size ≤ h'.size := by
  rcases step_ok hs with ⟨vs, _, _, rfl, _⟩ | ⟨a, v, _, _, rfl⟩ | ⟨_, _, rfl⟩
  · rw [Heap.size, Heap.size, allocAll_cells, List.length_append]
    exact Nat.le_add_right ..
  · exact Nat.le_of_eq (List.length_set ..).symm
  · exact Nat.le_refl _

/-- **freshness**: every object returned by `+`, `deepcopy`, `sum_namespaceids_items`,
    `scope_resolution_order`, `fqn`, `fqn_member_name` and the conversions from a new list or a string is
    a new object — it shares its list with nothing that existed before -/
theorem step_fresh (h h' : Heap) (op : Op) (rs : List Ref) (hs : step h op = .ok (h', rs))
    (ha : op.allocates = true) : ∀ r ∈ rs, h.size ≤ r := by
  rcases step_ok hs with ⟨vs, _, _, _, rfl⟩ | ⟨_, _, hf, _⟩ | ⟨hf, _⟩
  · rw [allocAll_refs]
    exact fun r hr => (List.mem_range'_1.mp hr).1
  · rw [hf] at ha; cases ha
  · rw [hf] at ha; cases ha

/-! ### agreement with the pure model -/

theorem mapM_mkIds_ok {vs ws : List Ids} (h : vs.mapM mkIds = .ok ws) : ws = vs :=
  (List.map_id ws).symm.trans
    ((map_eq_map_of_mapM (g := id) (k := id) (fun _ _ hb => (mkIds_ok_iff.1 hb).2.symm) h).trans (List.map_id vs))

/-- the values of the objects `scope_resolution_order` returns are those of the pure model
    (`Scoping.scopeResolutionOrder`, which `C14.order` characterises) -/
theorem sro_refines (h h' : Heap) (n s : Ref) (rs : List Ref) (hs : step h (.sro n s) = .ok (h', rs)) :
    rs.map h'.get = scopeResolutionOrder (h.get n) (h.get s) := by
  obtain ⟨vs, hvs, hs⟩ := bind_ok hs
  cases pure_ok hs
  rw [get_allocAll_new, mapM_mkIds_ok hvs]

/-- `a + b` is a new object holding the concatenation; neither operand changes -/
theorem add_refines (h h' : Heap) (a b : Ref) (rs : List Ref) (hs : step h (.add a b) = .ok (h', rs)) :
    rs.map h'.get = [h.get a ++ h.get b] := by
  obtain ⟨v, hv, hs⟩ := bind_ok hs
  cases pure_ok hs
  rw [(mkIds_ok_iff.1 hv).2]
  exact get_allocAll_new h [v]

/-- `a += b` extends the object `a` itself (and returns it) -/
theorem iadd_in_place (h : Heap) (a b : Ref) (ha : a < h.size) :
    ∃ h', step h (.iadd a b) = .ok (h', [a]) ∧ h'.get a = h.get a ++ h.get b :=
  ⟨_, rfl, get_set_same h _ ha⟩

/-! ### histories -/

/-- **C12 on the scoping layer**: whatever sequence of scoping operations a build performs, as long as it
    applies no in-place operation to an object it was handed, every such object holds at the end what it
    held at the start.  (The library's own in-place uses — the accumulator of `sum_namespaceids_items`,
    the popped copy inside `scope_resolution_order` — act on objects they allocated themselves and are
    inside `step`.) -/
theorem run_frame (h : Heap) (ops : List Op) (r : Ref) (hr : r < h.size)
    (hm : ∀ op ∈ ops, op.mutates ≠ some r) : (run h ops).1.get r = h.get r := by
  induction ops generalizing h with
  | nil => rfl
  | cons op ops ih =>
    obtain ⟨hop, hops⟩ := List.forall_mem_cons.mp hm
    simp only [run]
    cases hs : step h op with
    | error e => exact ih h hr hops
    | ok p =>
      -- `r` is still there after the step (the heap only grows) and holds what it held (frame)
      exact (ih p.1 (Nat.lt_of_lt_of_le hr (step_grows h p.1 op p.2 hs)) hops).trans
        (step_frame h p.1 op p.2 hs r hr hop)

/-- non-vacuity and the aliasing the frozen dataclass does not prevent: `x = namespaceids_t(l)` wraps the
    caller's list, so `x += y` changes what the caller's list holds; `+` and `deepcopy` return new objects -/
example :
    let h0 : Heap := {}
    let r := run h0 [.fromList [L "My"], .alias 0, .fromList [L "Sub"], .iadd 0 1, .fromList [L "I"], .add 0 2,
                     .deepcopy 0, .pop 4, .sum [0, 2]]
    r.1.cells = [[L "My", L "Sub"], [L "Sub"], [L "I"], [L "My", L "Sub", L "I"], [L "My"], [L "My", L "Sub", L "I"]] ∧
    r.2.map (·.toOption) = [some [0], some [0], some [1], some [0], some [2], some [3], some [4], some [], some [5]] := by
  decide +kernel

/-- … and `scope_resolution_order` returns fresh objects and leaves both arguments alone -/
example : (step { cells := [[L "My", L "Sub"], [L "I"]] } (.sro 1 0)).toOption =
    some ({ cells := [[L "My", L "Sub"], [L "I"], [L "My", L "Sub", L "I"], [L "My", L "I"], [L "I"]] }, [2, 3, 4]) := by
  decide +kernel

end C12
