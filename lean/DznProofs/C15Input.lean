/-
  C15 stated on the INPUT document (the clause "an out event with a non-void reply or with an out parameter is
  always refused"): whatever a JSON document contains besides, if an interface reachable from the root through
  namespaces lists an event written with direction "out" that has a formal written with direction "out", or whose
  written reply type is not the single id `void`, parsing the document does not succeed.  (`C15.out_event_refused`
  says the same about the *result*; this one cannot be satisfied by dropping the offending formal on the way.)
-/
import DznModel.SpecParser
import DznProofs.Lemmas.Parser
open Scoping Ast JVal Parser Lem

namespace C15

theorem parseFormal_dir_out {j : JVal} {f : Formal} (h : parseFormal j = .ok f)
    (hb : Spec.jFormalIsOut j = true) : f.dir = .out := by
  obtain ⟨o, s, rfl, hl, hdir⟩ := parseFormal_ok h
  simp only [Spec.jFormalIsOut, Spec.jDirIsOut, hl] at hb
  cases eqStr_iff.1 hb
  exact (Except.ok.inj hdir).symm

/-- **the event clause on the input**: an event written "out" with a formal written "out", or with a written reply
    type other than `void`, never parses -/
theorem bad_event_refused (j : JVal) (hb : Spec.jBadEvent j = true) : ∀ e, parseEvent j ≠ .ok e := by
  intro e h
  obtain ⟨o, d, s, rfl, hsig, hps, hdir, hpd, hout⟩ := parseEvent_ok h
  simp only [Spec.jBadEvent, Bool.and_eq_true, Bool.or_eq_true, Spec.jDirIsOut, hdir] at hb
  obtain ⟨hb1, hb2⟩ := hb
  cases eqStr_iff.1 hb1
  obtain ⟨hvoid, hformals⟩ := hout (Except.ok.inj hpd).symm
  obtain ⟨sg, d', d0, rfl, hfm, hpf, htn, hpt⟩ := parseSignature_ok hps
  rcases hb2 with hb2 | hb2
  · -- the offending formal
    obtain ⟨fm, l, rfl, hel, hmap⟩ := elements_ok hpf
    simp only [Spec.jFormalsOf, hsig, hfm, hel, List.any_eq_true] at hb2
    obtain ⟨a, ha, hout⟩ := hb2
    obtain ⟨f, hf, hpa⟩ := mapM_mem_fwd hmap a ha
    exact hformals f hf (parseFormal_dir_out hpa hout)
  · -- the reply type
    rw [hvoid] at hpt
    obtain ⟨tn, rfl, hids⟩ := parseScopeName_ok hpt
    simp [Spec.jReplyNotVoid, hsig, htn, hids] at hb2

/-- an interface that lists such an event never parses -/
theorem bad_interface_refused (kvs : Obj) (ns : NsTree)
    (hb : (Spec.jEventsOf kvs).any Spec.jBadEvent = true) : ∀ i, parseInterface (.obj kvs) ns ≠ .ok i := by
  intro i h
  obtain ⟨o, d, hj, hev, hpe⟩ := parseInterface_ok h
  cases hj
  obtain ⟨ev, l, rfl, hel, hmap⟩ := elements_ok hpe
  simp only [Spec.jEventsOf, hev, hel, List.any_eq_true] at hb
  obtain ⟨a, ha, hbad⟩ := hb
  obtain ⟨e, _, hpa⟩ := mapM_mem_fwd hmap a ha
  exact bad_event_refused a hbad e hpa

theorem bad_element_refused {inner : List JVal → Bool}
    (hinner : ∀ l ns fc, inner l = true → (parseElements l ns fc).2 ≠ none)
    {j : JVal} (ns : NsTree) (fc : FC) (hb : Spec.jBadElem inner j = true) :
    (parseElement j ns fc).2 ≠ none := by
  cases j with
  | obj kvs =>
    simp only [Spec.jBadElem] at hb
    cases hc : lookup (L "<class>") kvs with
    | none => simp [hc] at hb
    | some cls =>
      simp only [hc] at hb
      cases hn : cls.eqStr (L "namespace") with
      | true =>
        simp only [hn, if_true] at hb
        cases hh : parseNamespaceHead kvs with
        | error e => rw [parseElement_namespace_error ns fc hc hn hh]; exact nofun
        | ok p =>
          obtain ⟨name, elems, hlt⟩ := p
          rw [parseElement_namespace ns fc hc hn hh]
          rw [parseNamespaceHead_elems hh] at hb
          exact hinner elems _ fc hb
      | false =>
        simp only [hn, Bool.false_eq_true, if_false] at hb
        cases hi : cls.eqStr (L "interface") with
        | false => simp [hi] at hb
        | true =>
          simp only [hi, if_true] at hb
          cases eqStr_iff.1 hi
          rw [parseElement_interface ns fc hc]
          cases hp : parseInterface (.obj kvs) ns with
          | ok i => exact absurd hp (bad_interface_refused kvs ns hb i)
          | error e => exact nofun
  | _ => simp [Spec.jBadElem] at hb

/-- an element that is refused whatever has been collected so far makes its list fail -/
theorem parseElements_refused {j : JVal} {l : List JVal} {ns : NsTree} (hj : j ∈ l)
    (h : ∀ fc, (parseElement j ns fc).2 ≠ none) (fc : FC) : (parseElements l ns fc).2 ≠ none := by
  induction l generalizing fc with
  | nil => cases hj
  | cons a rest ih =>
    rw [parseElements]
    cases hp : parseElement a ns fc with
    | mk fc' oe =>
      cases oe with
      | some e => exact nofun
      | none =>
        rcases List.mem_cons.1 hj with rfl | hj
        · exact absurd (by rw [hp]) (h fc)
        · exact ih hj fc'

theorem bad_elems_refused : ∀ (n : Nat) (l : List JVal) (ns : NsTree) (fc : FC),
    Spec.jBadElems n l = true → (parseElements l ns fc).2 ≠ none
  | 0, _, _, _, h => nomatch h
  | n + 1, _, ns, fc, h =>
    have ⟨_, hj, hb⟩ := List.any_eq_true.1 h
    parseElements_refused hj (fun fc => bad_element_refused (bad_elems_refused n) ns fc hb) fc

/-- **C15 on the input document**: a document in which an interface (at the root or inside namespaces nested at
    most `fuel` deep) lists an out event with an `out` parameter or a non-void reply is never parsed successfully -/
theorem bad_document_refused (fuel : Nat) (ast : JVal) (h : Spec.jBadDoc fuel ast = true) :
    ∃ e, parse ast = .error e := by
  refine parse_cases (fun r => ∃ e, r = .error e) ast (fun e _ => ⟨e, rfl⟩) ?_ (fun _ _ e _ _ => ⟨e, rfl⟩)
  intro elems fc hr hp
  obtain ⟨o, rfl, hel⟩ := parseRoot_ok hr
  simp only [Spec.jBadDoc, hel] at h
  exact absurd (by rw [hp]) (bad_elems_refused fuel elems {} {} h)

/-- the hypothesis is satisfiable: a one-interface document with `out void E(out T a)` -/
example : Spec.jBadDoc 1 (.obj [(L "<class>", .str (L "root")), (L "elements", .arr [
    .obj [(L "<class>", .str (L "interface")), (L "events", .obj [(L "elements", .arr [
      .obj [(L "direction", .str (L "out")), (L "signature", .obj [(L "formals", .obj [(L "elements", .arr [
        .obj [(L "direction", .str (L "out"))]])])])]])])]])]) = true := by decide

/-- … and one with `out bool E()` -/
example : Spec.jBadDoc 1 (.obj [(L "<class>", .str (L "root")), (L "elements", .arr [
    .obj [(L "<class>", .str (L "interface")), (L "events", .obj [(L "elements", .arr [
      .obj [(L "direction", .str (L "out")), (L "signature", .obj [(L "type_name", .obj [(L "ids", .arr [
        .str (L "bool")])])])]])])]])]) = true := by decide

/-! ### fuel: looking deeper never finds less (the monitor's fuel covers every shallower nesting) -/

theorem jBadElem_mono {f g : List JVal → Bool} (h : ∀ l, f l = true → g l = true) {j : JVal}
    (hb : Spec.jBadElem f j = true) : Spec.jBadElem g j = true := by
  -- both sides take the same branches (a dict, its class, a namespace, its elements); they differ only where the
  -- inner check is called
  revert hb
  unfold Spec.jBadElem
  split
  · split
    · split
      · split
        · exact h _
        · exact id
      · exact id
    · exact id
  · exact id

theorem jBadElems_le (n m : Nat) (h : n ≤ m) (l : List JVal) (hb : Spec.jBadElems n l = true) :
    Spec.jBadElems m l = true := by
  induction n generalizing m l with
  | zero => cases hb
  | succ n ih =>
    cases m with
    | zero => cases h
    | succ m =>
      simp only [Spec.jBadElems, List.any_eq_true] at hb ⊢
      obtain ⟨j, hj, hbj⟩ := hb
      exact ⟨j, hj, jBadElem_mono (ih m (Nat.le_of_succ_le_succ h)) hbj⟩

end C15
