/-
  C01 — The shell forwards every port event to its counterpart exactly once, intact.
  Theorems over the wiring semantics (DznModel.Sem) and the generator of the wiring IR
  (DznModel.Shell).  The trace-level tie to the compiled C++ is the check's correspondence run.
-/
import DznModel.Sem
import DznProofs.Lemmas.Basic
import DznProofs.Lemmas.Sem
import DznProofs.SemReact
open Py Ast Shell Sem Lem SemReact

namespace C01

def setAll (w : World) (l : List (RSlot × RH)) : World := l.foldl (fun w kv => w.set kv.1 kv.2) w

/-- executing assignments with pairwise distinct left-hand slots yields a store that maps each
    slot to its own right-hand side and leaves every other slot as it was: no event of an exposed
    port is left unrouted, routed twice, or routed to a different port or event -/
theorem store_after_assigns (w : World) (l : List (RSlot × RH)) (hnd : (l.map (·.1)).Nodup) :
    (∀ kv ∈ l, (setAll w l).get kv.1 = some kv.2) ∧
    (∀ s, s ∉ l.map (·.1) → (setAll w l).get s = w.get s) := by
  unfold setAll
  constructor
  · -- the last assignment to `kv.1` wins, and that is `kv`: no other element assigns this slot
    intro kv hkv
    refine foldl_last_writer (fun w : World => w.get kv.1) (fun _ => True) trivial (fun w _ a ha => ⟨trivial, ?_⟩)
      ⟨kv, hkv, fun w _ => get_set_same⟩
    by_cases e : a.1 = kv.1
    · rw [nodup_map_inj hnd ha hkv e]
      exact .inr get_set_same
    · exact .inl (get_set_other (Ne.symm e))
  · intro s hs
    exact List.foldlRecOn (motive := fun w' : World => w'.get s = w.get s) _ _ rfl
      fun w' h a ha => (get_set_other fun (e : s = a.1) => hs (e ▸ List.mem_map_of_mem ha)).trans h

/-- the single observation line a scripted handler prints -/
def obsLine (who : Who) (port : Str) (ev : Event) (args : List Val) (disp : Bool) : Str :=
  L "obs " ++ who.str ++ L " " ++ port ++ L "." ++ ev.name ++ L " args=" ++ valsStr args ++
  L " disp=" ++ (if disp then L "1" else L "0")

theorem scriptedRun_out (w : World) (who : Who) (port : Str) (ev : Event) (args : List Val) :
    (scriptedRun w who port ev args).1.out = obsLine who port ev args w.inDispatch :: w.out := rfl

theorem drain_empty (n : Nat) (w : World) (h : w.queue = []) : drain (n + 1) w = (w, none) := by
  rw [← drainR_nil, drainR_empty h]

/-- **one call through `dzn::shell`** with nothing pending, on any slot wired to an in-event of the
    wrapped component (a boundary port, or the arbitered port of a multi-client selector) -/
theorem shell_call {w : World} (n : Nat) {s : RSlot} {p : Str} {ev : Event} {ps : List LParam}
    {byVal : List Str} {args : List Val}
    (hq : w.queue = [])
    (hb : w.get s = some (.ir (.shell ⟨.enc p, .in_, ev.name⟩ ps (ps.map (·.name)) byVal) ev [] []))
    (hc : w.get ⟨.enc p, .in_, ev.name⟩ = some (.scripted .comp p ev))
    (hlen : ps.length = args.length) (hnd : (ps.map (·.name)).Nodup) :
    invoke (n + 3) w s args =
      ({ w with shellCalls := w.shellCalls + 1, pumpTouched := true, executed := w.executed + 1,
                out := obsLine .comp p ev args true :: w.out },
       .ok (if isVoid ev then none else some (w.reply true p ev.name))
           (writeBack ps args (ps.map (·.name)) (rewritten ev args))) := by
  -- `hq` and `hc` speak of `w`; the drain and the call happen in `w` with counters and flags updated, whose
  -- queue and slots reduce to those of `w`: the worlds are named so that the two are accepted there
  rw [← invokeR_nil, invokeR_shell hb,
    drainR_empty (w := { w with shellCalls := w.shellCalls + 1, pumpTouched := true }) hq]
  simp only [evalArgs_self ps args hlen hnd, resolveSlot, resolveObj, scriptedRun, invokeR_scripted_none (rx := [])
    (w := { w with shellCalls := w.shellCalls + 1, pumpTouched := true, inDispatch := true }) hc (ite_self _)]
  cases isVoid ev <;> rfl

/-- **environment → component, multi-threaded provides port**: a client's call of an in-event on
    the boundary port is executed by the wrapped component's same-named event of the same-named
    port exactly once (one observation line, arguments intact, in declared order); the scripted
    reply and the component's out/inout values come back to the caller; nothing else changes.
    (That the observation carries `disp=1` is the dispatcher-context clause of C02.) -/
theorem env_to_comp_mts_provides (w : World) (n : Nat) (mv p : Str) (ev : Event) (ps : List LParam)
    (byVal : List Str) (args : List Val)
    (hq : w.queue = [])
    (hb : w.get ⟨.bnd mv, .in_, ev.name⟩ =
          some (.ir (.shell ⟨.enc p, .in_, ev.name⟩ ps (ps.map (·.name)) byVal) ev [] []))
    (hc : w.get ⟨.enc p, .in_, ev.name⟩ = some (.scripted .comp p ev))
    (hlen : ps.length = args.length) (hnd : (ps.map (·.name)).Nodup) :
    invoke (n + 3) w ⟨.bnd mv, .in_, ev.name⟩ args =
      ({ w with shellCalls := w.shellCalls + 1, pumpTouched := true, executed := w.executed + 1,
                out := obsLine .comp p ev args true :: w.out },
       .ok (if isVoid ev then none else some (w.reply true p ev.name))
           (writeBack ps args (ps.map (·.name)) (rewritten ev args))) :=
  shell_call n hq hb hc hlen hnd

/-- **single-threaded port**: the accessor hands out the component's own port, so the call *is*
    the component's event: once, intact, no dispatcher involved -/
theorem env_to_comp_sts (w : World) (n : Nat) (p : Str) (ev : Event) (d : EvDir) (args : List Val)
    (hc : w.get ⟨.enc p, d, ev.name⟩ = some (.scripted .comp p ev)) :
    invoke (n + 1) w ⟨.enc p, d, ev.name⟩ args =
      ((scriptedRun w .comp p ev args).1, .ok (scriptedRun w .comp p ev args).2.1 (scriptedRun w .comp p ev args).2.2) := by
  rw [← invokeR_nil]
  exact invokeR_scripted_none hc (ite_self _)

/-- **component → environment, multi-threaded provides port**: an out-event raised by the component
    reaches the environment's handler bound on the boundary port exactly once, intact -/
theorem comp_to_env_mts_provides (w : World) (n : Nat) (mv p : Str) (ev : Event) (args : List Val)
    (he : w.get ⟨.enc p, .out, ev.name⟩ = some (.ir (.ref ⟨.bnd mv, .out, ev.name⟩) ev [] []))
    (hb : w.get ⟨.bnd mv, .out, ev.name⟩ = some (.scripted .env p ev)) :
    invoke (n + 2) w ⟨.enc p, .out, ev.name⟩ args =
      ((scriptedRun w .env p ev args).1, .ok (scriptedRun w .env p ev args).2.1 (scriptedRun w .env p ev args).2.2) := by
  rw [← invokeR_nil, invokeR_ref he]
  exact invokeR_scripted_none hb rfl

/-- **environment → component, multi-threaded requires port**: the out-event a peer raises on the
    boundary port is queued — nothing is observed and the call returns — and when the dispatcher
    runs it arrives at the component's same-named event exactly once, with the values it had at call
    time -/
theorem requires_out_posted_then_delivered (w : World) (n : Nat) (mv p : Str) (ev : Event)
    (ps : List LParam) (args : List Val)
    (hq : w.queue = [])
    (hb : w.get ⟨.bnd mv, .out, ev.name⟩ =
          some (.ir (.post ⟨.enc p, .out, ev.name⟩ ps (ps.map (·.name)) (ps.map (·.name))) ev [] []))
    (hc : w.get ⟨.enc p, .out, ev.name⟩ = some (.scripted .comp p ev))
    (hlen : ps.length = args.length) (hnd : (ps.map (·.name)).Nodup) :
    let w1 : World := { w with posted := w.posted + 1, pumpTouched := true,
                               queue := [{ callee := ⟨.enc p, .out, ev.name⟩, args := args, dangling := false }] }
    invoke (n + 1) w ⟨.bnd mv, .out, ev.name⟩ args = (w1, .ok none args) ∧
    drain (n + 3) w1 =
      ({ w with posted := w.posted + 1, pumpTouched := true, queue := [], executed := w.executed + 1,
                out := obsLine .comp p ev args true :: w.out }, none) := by
  have hdang : ((ps.map (·.name)).any fun a => !(ps.map (·.name)).contains a) = false :=
    List.any_eq_false.mpr fun a ha => by simpa using ha
  constructor
  · rw [← invokeR_nil, invokeR_post hb]
    simp only [evalArgs_self ps args hlen hnd, hdang, hq, resolveSlot, resolveObj, List.nil_append]
  · rw [← drainR_nil, drainR_cons rfl]
    simp only [Bool.false_eq_true, if_false, scriptedRun, invokeR_scripted_none (rx := [])
      (w := { w with posted := w.posted + 1, pumpTouched := true, queue := [], inDispatch := true }) hc (ite_self _)]
    exact drainR_empty rfl

/-- an event with `in` formals only (every out-event, assumption A-3) captures all of them by value -/
theorem inFormalNames_of_all_in {ev : Event} (h : ∀ f ∈ ev.formals, f.dir = .in_) : inFormalNames ev = formalNames ev :=
  congrArg _ (List.filter_eq_self.mpr fun f hf => decide_eq_true (h f hf))

/-- the lambda parameters carry the formals' names, in declared order -/
theorem lambdaParams_names (fc : FC) (itf : InterfaceD) (ev : Event) (refs : Bool) (ps : List LParam)
    (h : lambdaParamsOf fc itf ev refs = .ok ps) : ps.map (·.name) = ev.formals.map (·.name) := by
  refine map_eq_map_of_mapM (fun f b hb => ?_) h
  obtain ⟨_, _, hb⟩ := bind_ok hb
  rw [← pure_ok hb]

theorem mapM_mem {α β} (f : α → R β) (l : List α) (r : List β) (h : l.mapM f = .ok r) :
    ∀ b ∈ r, ∃ a ∈ l, f a = .ok b := Lem.mapM_mem h

/-- **arguments in declared order**: every rerouting lambda the generator emits for an in-event
    calls the component's same-named event of the same port with its own parameters, in the
    order of the event's formals -/
theorem args_declared_order (fc : FC) (p : CppPortItf) (as : List Assign)
    (h : rerouteInEvents fc p = .ok as) :
    ∀ a ∈ as, ∃ ev ∈ inEvents p.dzn.itf, ∃ ps byVal,
      a.lhs.dir = .in_ ∧ a.lhs.ev = ev.name ∧
      a.rhs = .shell ⟨.enc p.name, .in_, ev.name⟩ ps (ps.map (·.name)) byVal ∧
      ps.map (·.name) = ev.formals.map (·.name) := by
  intro a ha
  obtain ⟨ev, hev, ps, hps, rfl⟩ := (mapM_bind_pure h).2 a ha
  have hn := lambdaParams_names fc p.dzn.itf ev true ps hps
  exact ⟨ev, hev, ps, inFormalNames ev, rfl, rfl, by rw [hn]; rfl, hn⟩

end C01
