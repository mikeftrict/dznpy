/-
  The wiring semantics with a wrapped component that REACTS (raises an out-event while it handles an
  in-event, before the in-event returns — what Dezyne components do), `Sem.invokeR` / `Sem.drainR`, is a
  conservative extension: with no reactions registered it is `Sem.invoke` / `Sem.drain`, the semantics
  all other program-level theorems are about.
-/
import DznModel.Sem
open Sem

namespace SemReact

theorem reactionOf_nil (w : World) (p e : Str) : reactionOf [] w p e = none := rfl

theorem invokeR_drainR_nil (fuel : Nat) :
    (∀ w s args, invokeR [] fuel w s args = invoke fuel w s args) ∧ (∀ w, drainR [] fuel w = drain fuel w) := by
  induction fuel with
  | zero => exact ⟨fun w s args => by rw [invokeR, invoke], fun w => by rw [drainR, drain]⟩
  | succ n ih =>
    -- the bodies are the same text around the recursive calls, except where a scripted handler looks
    -- up its reaction: with none registered both branches of that `if` are `none`
    have ihI : invokeR [] n = invoke n := funext fun w => funext fun s => funext fun args => ih.1 w s args
    have ihD : drainR [] n = drain n := funext ih.2
    constructor
    · intro w s args
      rw [invokeR, invoke, ihI, ihD]
      cases w.get s with
      | none => rfl
      | some rh =>
        cases rh with
        | scripted who port ev => cases who <;> rfl
        | noop ev => rfl
        | ir h ev cid cmv => rfl
    · intro w
      rw [drainR, drain, ihI, ihD]

theorem invokeR_nil (fuel : Nat) (w : World) (s : RSlot) (args : List Val) :
    invokeR [] fuel w s args = invoke fuel w s args := (invokeR_drainR_nil fuel).1 w s args

theorem drainR_nil (fuel : Nat) (w : World) : drainR [] fuel w = drain fuel w := (invokeR_drainR_nil fuel).2 w

end SemReact
