/-
  C03 (build-level clauses) — what the port selection means for the build: every exposed port of a
  successful build carries exactly the semantics the configuration selects for its name (there is a
  descriptor for every exposed port and for no other: `Lem.portLoop_complete`, `Lem.portLoop_sound`),
  an exposed port without semantics or a rejected selection makes the build fail
  (`C13.uncovered_port`, `C13.selection_rejected`), and injected requires ports never need a semantics.
-/
import DznModel.SpecBuild
import DznProofs.C13Invalid
open Ast Shell Lem

namespace C03

/-- **C03 (through the build)**: every exposed port descriptor of a successful
    `create_dzn_elements` carries exactly the semantics the matched configuration assigns to the
    port's name — `Spec.sideSem`: the explicitly naming side first, else the covering wildcard -/
theorem exposed_port_semantics (cfg fc enc de) (h : createDznElements cfg fc enc = .ok de) :
    ∃ sems, cfg.ports.matchAll (C13.provNames enc) (C13.reqNames enc) = .ok sems ∧
      ∀ d ∈ de.provides ++ de.requires, sems.lookup d.port.name = some d.sem := by
  obtain ⟨sems, E⟩ := createDznElements_ok h
  exact ⟨sems, E.selected, fun d hd => (E.descr hd).2.sem⟩

/-- **injected requires ports never need a semantics**: the per-port step leaves the accumulated
    descriptors untouched and succeeds, whatever the matched dictionary says about the name -/
theorem injected_needs_no_semantics (cfg fc scope sems acc) (p : Port) (i : InterfaceD)
    (hd : p.dir = .requires) (hinj : p.injected = true)
    (hi : Spec.portInterface fc scope p = some i) :
    processPort cfg fc scope sems acc p = .ok acc :=
  processPort_injected ((C07.port_type_is_the_denoted_interface fc scope p i).mpr hi) hd hinj

end C03
