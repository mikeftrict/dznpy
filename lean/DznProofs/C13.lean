/-
  C13 — A build either returns a complete result or fails with a diagnosed error. (property theorems)
  The model carries Python's failure modes (`PyErr.internal`, `PyErr.deliberate`), so "never an
  internal error" is not true by typing: every lookup, every `[0]`, every dict access of the build
  pipeline is a point where the model could produce one, and the theorem walks all of them.
  "Never hangs" is the totality of `build` (structural recursion, accepted by Lean's termination
  checker with no fuel argument anywhere in the build pipeline).
-/
import DznModel.ShellBuild
import DznModel.SpecGen
import DznProofs.Lemmas.Build
import DznProofs.C06
open Py Ast AstView PortSel Support Shell Lem

namespace C13

/-- the library's own error types -/
def LibOnly (e : PyErr) : Prop := ∃ l, e = .lib l

/-- `Lem.FailsIn LibOnly r` as a structure (the lemmas below use `FailsIn` and its closure lemmas directly) -/
structure Good {α} (r : R α) : Prop where
  h : ∀ e, r = .error e → LibOnly e

theorem mapM_mem_ok {α β} (f : α → R β) (l : List α) (hf : ∀ a ∈ l, Good (f a)) : Good (l.mapM f) :=
  ⟨FailsIn.mapM fun a ha => (hf a ha).h⟩

theorem lib_libOnly {α} {l : LibErr} : FailsIn LibOnly (.error (.lib l) : R α) := .error ⟨l, rfl⟩
theorem adv_libOnly {α} : FailsIn LibOnly (adv : R α) := lib_libOnly

/-! ### the two hypotheses of `trichotomy` -/

/-- well-formed configuration: what `MultiClientPortCfg.__post_init__` guarantees of every
    configuration object that exists (`mkMultiClientCfg`) -/
def WfCfg (cfg : Config) : Prop := ∀ m, cfg.ports.multiclient = some m → m.grant ≠ []

theorem wf_of_mk (m m' : MultiClientCfg) (h : mkMultiClientCfg m = .ok m') : m'.grant ≠ [] := by
  unfold mkMultiClientCfg at h
  obtain ⟨_, h⟩ := ite_ok h
  obtain ⟨_, h⟩ := ite_ok h
  obtain ⟨hg, h⟩ := ite_ok h
  obtain ⟨_, h⟩ := ite_ok h
  obtain ⟨_, h⟩ := ite_ok h
  cases h
  intro he
  rw [he] at hg
  exact hg rfl

/-- port names are identifiers, hence non-empty (Dezyne's grammar; the JSON parser does not check) -/
def PortNamesNonEmpty (d : Decl) : Prop := ∀ p ∈ Decl.ports d, p.name ≠ []

/-! ### the exposed ports -/

theorem getSingle_libOnly {items want} : FailsIn LibOnly (getSingle items want) := fun _ h => ⟨_, getSingle_error h⟩

theorem checkMulticlientCfg_libOnly {c : Option MultiClientCfg} {pn itf fc} (hg : ∀ m, c = some m → m.grant ≠ []) :
    FailsIn LibOnly (checkMulticlientCfg c pn itf fc) := fun _ h => ⟨_, checkMulticlientCfg_error hg h⟩

theorem mkDznPortItf_libOnly {p i s mc} : FailsIn LibOnly (mkDznPortItf p i s mc) := lib_libOnly.ite .ok

theorem processPort_libOnly {cfg fc scope sems acc port} (hwf : WfCfg cfg) :
    FailsIn LibOnly (processPort cfg fc scope sems acc port) := by
  refine getSingle_libOnly.bind fun d => ?_
  cases d with
  | interface itf =>
    exact .ite ((checkMulticlientCfg_libOnly hwf).bind fun mc =>
        match sems.lookup port.name with
        | none => adv_libOnly
        | some s => mkDznPortItf_libOnly.bind fun _ => .pure)
      (.ite (match sems.lookup port.name with
        | none => adv_libOnly
        | some s => mkDznPortItf_libOnly.bind fun _ => .pure) .pure)
  | _ => exact lib_libOnly

theorem matchPorts_libOnly {c : SemCfg} {expected : List Str} (h : [] ∉ expected) :
    FailsIn LibOnly (c.matchPorts expected) :=
  -- the second guard raises a `TypeError`, but it is the one the hypothesis excludes
  adv_libOnly.ite (iteInduction (fun hc => absurd (List.contains_iff_mem.mp hc) h) fun _ => .ok)

theorem matchAll_libOnly {c : PortsCfg} {prov req : List Str} (hp : [] ∉ prov) (hr : [] ∉ req) :
    FailsIn LibOnly (c.matchAll prov req) :=
  (matchPorts_libOnly hp).bind fun _ => (matchPorts_libOnly hr).bind fun _ => .pure

theorem not_mem_names {ports : List Port} {f : Port → Bool} (h : ∀ p ∈ ports, p.name ≠ []) :
    [] ∉ ((ports.filter f).map (·.name)).eraseDups := by
  intro hm
  rw [List.mem_eraseDups] at hm
  obtain ⟨p, hp, hn⟩ := List.mem_map.mp hm
  exact h p ((List.mem_filter.mp hp).1) hn

theorem createDznElements_libOnly {cfg fc enc} (hwf : WfCfg cfg) (hp : PortNamesNonEmpty enc) :
    FailsIn LibOnly (createDznElements cfg fc enc) :=
  adv_libOnly.ite <| (matchAll_libOnly (not_mem_names hp) (not_mem_names hp)).bind fun _ =>
    (FailsIn.foldlM fun _ _ _ => processPort_libOnly hwf).bind fun _ => adv_libOnly.ite .pure

/-! ### C++ port descriptors and the wiring

  `create_cpp_portitf` fails on an empty port name only; `create_cpp_port_helpers` and `create_constructor` look up
  nothing but the types of event parameters, so they fail only where `formalCType` does.  Stated for any set `S` of
  permitted errors: at `LibOnly` this is their part of `trichotomy`, at the empty set it says that they succeed on
  a model whose ports are named and whose parameters are all typed (`valid_succeeds`). -/

section
variable {S : PyErr → Prop} {fc : FC}

theorem capFirst_failsIn {s : Str} (h : s ≠ []) : FailsIn S (capFirst s) := by
  cases s with
  | nil => exact absurd rfl h
  | cons _ _ => exact .ok

/-- `name[0]` is all that can fail in `create_cpp_portitf` -/
theorem createCppPortItf_failsIn {d : DznPortItf} {sn sfns} (h : d.port.name ≠ []) :
    FailsIn S (createCppPortItf d sn sfns) := by
  refine (capFirst_failsIn h).bind fun cap => ?_
  cases d.sem with
  | sts => exact .pure
  | mts =>
    cases d.mc with
    | none => exact .pure
    | some _ => exact .pure

def ParamsIn (S : PyErr → Prop) (fc : FC) (itf : InterfaceD) : Prop :=
  ∀ ev ∈ itf.events, ∀ f ∈ ev.formals, FailsIn S (formalCType fc itf f)

theorem withParams_failsIn {α itf ev refs} {k : List LParam → α}
    (h : ∀ f ∈ ev.formals, FailsIn S (formalCType fc itf f)) :
    FailsIn S (do let ps ← lambdaParamsOf fc itf ev refs; pure (k ps)) :=
  (FailsIn.mapM fun f hf => (h f hf).bind fun _ => .pure).bind fun _ => .pure

theorem rerouteInEvents_failsIn {p} (h : ParamsIn S fc p.dzn.itf) : FailsIn S (rerouteInEvents fc p) :=
  .mapM fun ev hev => withParams_failsIn (h ev (List.mem_filter.mp hev).1)

theorem rerouteOutEvents_failsIn {p} (h : ParamsIn S fc p.dzn.itf) : FailsIn S (rerouteOutEvents fc p) :=
  .mapM fun ev hev => withParams_failsIn (h ev (List.mem_filter.mp hev).1)

theorem rerouteMcOutEvents_failsIn {p} (h : ParamsIn S fc p.dzn.itf) : FailsIn S (rerouteMcOutEvents fc p) :=
  .mapM fun ev hev => withParams_failsIn (h ev (List.mem_filter.mp hev).1)

/-- the claim and the release wrapper take their parameters from the fixture's events, whatever event is at hand -/
theorem initializePortAssigns_failsIn {p} {mc : McFixture}
    (hc : ∀ f ∈ mc.claimEvent.formals, FailsIn S (formalCType fc p.dzn.itf f))
    (hr : ∀ f ∈ mc.releaseEvent.formals, FailsIn S (formalCType fc p.dzn.itf f)) :
    FailsIn S (initializePortAssigns fc p mc) :=
  .mapM fun _ _ => (withParams_failsIn hc).ite ((withParams_failsIn hr).ite .pure)

theorem createHelpers_failsIn {ps : List CppPortItf} {sfns sn}
    (h : ∀ p ∈ ps, ∀ mc, p.dzn.mc = some mc → FailsIn S (initializePortAssigns fc p mc)) :
    FailsIn S (createHelpers fc ps sfns sn) := by
  unfold createHelpers
  refine (FailsIn.forIn fun p hp st => ?_).bind fun _ => .pure
  cases hmc : p.dzn.mc with
  | none => exact FailsIn.pure.bind fun _ => .pure
  | some mc => exact (h p hp mc hmc).bind fun _ => .pure

theorem createConstructor_failsIn {sn fac sfns} {pp rp : List CppPortItf}
    (h : ∀ p ∈ pp ++ rp, p.dzn.sem = .mts → ParamsIn S fc p.dzn.itf) :
    FailsIn S (createConstructor fc sn fac pp rp sfns) := by
  have hpp : ∀ p ∈ mtsPorts pp, ParamsIn S fc p.dzn.itf := fun p hp =>
    h p (List.mem_append_left _ (mem_mtsPorts.mp hp).1) (mem_mtsPorts.mp hp).2
  have hrp : ∀ p ∈ mtsPorts rp, ParamsIn S fc p.dzn.itf := fun p hp =>
    h p (List.mem_append_right _ (mem_mtsPorts.mp hp).1) (mem_mtsPorts.mp hp).2
  unfold createConstructor
  exact (FailsIn.mapM fun p hp => rerouteInEvents_failsIn (hpp p (List.mem_filter.mp hp).1)).bind fun _ =>
    (FailsIn.mapM fun p hp => rerouteOutEvents_failsIn (hrp p hp)).bind fun _ =>
    (FailsIn.mapM fun p hp => rerouteInEvents_failsIn (hpp p (List.mem_filter.mp hp).1)).bind fun _ =>
    (FailsIn.mapM fun p hp => rerouteMcOutEvents_failsIn (hpp p (List.mem_filter.mp hp).1)).bind fun _ => .pure

end

theorem formalCType_libOnly {fc itf f} : FailsIn LibOnly (formalCType fc itf f) := fun _ h => ⟨_, formalCType_error h⟩

theorem params_libOnly {fc itf} : ParamsIn LibOnly fc itf := fun _ _ _ _ => formalCType_libOnly

theorem buildShell_libOnly {fc : FC} {cfg : Config} (hwf : WfCfg cfg)
    (hp : ∀ enc, getSingle (findFqn fc cfg.encapsulee) = .ok enc → PortNamesNonEmpty enc) :
    FailsIn LibOnly (buildShell fc cfg) := by
  unfold buildShell
  refine adv_libOnly.ite (getSingle_libOnly.bind_of_ok fun enc henc => ?_)
  refine (createDznElements_libOnly hwf (hp enc henc)).bind_of_ok fun de hde => ?_
  -- the descriptors are those of ports of the encapsulee, whose names are not empty
  obtain ⟨sems, E⟩ := createDznElements_ok hde
  have cpp : ∀ {sn sfns}, ∀ d ∈ de.provides ++ de.requires, FailsIn LibOnly (createCppPortItf d sn sfns) := fun d hd =>
    createCppPortItf_failsIn (hp enc henc _ (E.descr hd).1)
  refine lib_libOnly.ite ((FailsIn.mapM fun d hd => cpp d (List.mem_append_left _ hd)).bind fun pp => ?_)
  refine (FailsIn.mapM fun d hd => cpp d (List.mem_append_right _ hd)).bind fun rp => ?_
  refine (createHelpers_failsIn fun _ _ _ _ =>
    initializePortAssigns_failsIn (fun _ _ => formalCType_libOnly) fun _ _ => formalCType_libOnly).bind fun _ => ?_
  exact (createConstructor_failsIn fun _ _ _ => params_libOnly).bind fun _ => .pure

theorem names_of_build {fc cfg r} (h : build fc cfg = .ok r) :
    r.files.map (·.filename) =
      Spec.expectedFileNames (getBasename cfg.dezyneFilename ++ cfg.suffix) (distillateNs cfg.pfx).2.2 := by
  obtain ⟨s, ⟨B⟩, rfl⟩ := build_ok h
  simp only [List.map_append, List.map_cons, List.map_nil, B.hh, B.cc, C06.support_files_named_by_prefix]
  rfl

/-- **C13 (complete result or diagnosed error)**: for every model and every well-formed
    configuration, `build` returns all eight files (header, source, six support files — with exactly
    the expected names) or fails with one of the library's own errors; never an internal error
    (KeyError, AttributeError, IndexError, TypeError, RecursionError), never a partial file set.
    Termination ("never hangs") is the totality of `build`. -/
theorem trichotomy (fc : FC) (cfg : Config) (hwf : WfCfg cfg)
    (hp : ∀ enc, getSingle (findFqn fc cfg.encapsulee) = .ok enc → PortNamesNonEmpty enc) :
    (∃ r, build fc cfg = .ok r ∧ r.files.length = 8 ∧
        r.files.map (·.filename) =
          Spec.expectedFileNames (getBasename cfg.dezyneFilename ++ cfg.suffix) (distillateNs cfg.pfx).2.2) ∨
    (∃ l, build fc cfg = .error (.lib l)) := by
  cases hb : build fc cfg with
  | ok r => exact .inl ⟨r, rfl, C06.eight_files fc cfg r hb, names_of_build hb⟩
  | error e =>
    have hg : FailsIn LibOnly (build fc cfg) := (buildShell_libOnly hwf hp).bind fun _ => .pure
    obtain ⟨l, rfl⟩ := hg e hb
    exact .inr ⟨l, rfl⟩

/-- a successful build is never partial (no hypothesis needed) -/
theorem complete_file_set (fc : FC) (cfg : Config) (r : BuildResult) (h : build fc cfg = .ok r) :
    r.files.length = 8 ∧
    r.files.map (·.filename) =
      Spec.expectedFileNames (getBasename cfg.dezyneFilename ++ cfg.suffix) (distillateNs cfg.pfx).2.2 :=
  ⟨C06.eight_files fc cfg r h, names_of_build h⟩

/-- the two hypotheses of `trichotomy` are exactly the excluded inputs: a granting reply value that
    is the empty identifier list makes the model (and the implementation: `[0]` on an empty list)
    fail with an internal error — `MultiClientPortCfg.__post_init__` refuses to construct such a
    configuration, which is why `WfCfg` holds of every configuration object that exists -/
theorem wf_needed (pn itf fc) (c : MultiClientCfg) (hpn : pn = c.portName) (hg : c.grant = [])
    (claim : Event) (rest : List Event) (hc : itf.events.filter (fun e => e.name = c.claimEvent) = claim :: rest)
    (en : EnumD) (hen : getSingle (findFqn fc claim.replyType itf.fqn) (some isEnum) = .ok (.enum en)) :
    checkMulticlientCfg (some c) pn itf fc = .error (.internal .IndexError) := by
  unfold checkMulticlientCfg
  dsimp only
  rw [if_neg (not_not_intro hpn), hc]
  dsimp only
  rw [hen]
  rw [hg]

end C13
