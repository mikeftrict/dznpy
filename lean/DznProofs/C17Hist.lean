/-
  C17 / C18 / C19 over *histories*: one TextBlock (or Comment) object under an arbitrary sequence of
  operations (append, +=, trim, indent, set_indentor, the `lines` setter, `+`, being poured into
  another block, being rendered).  The single-call theorems of C17/C18/C19 are lifted to every state
  the object can reach; the tie (`tb.hist` stream) runs the same histories on one real object, so
  state that outlives a call — a cached rendering, a shared buffer — is seen.
-/
import DznProofs.Lemmas.Text
import DznProofs.C17
import DznProofs.C18
import DznProofs.C19
open Py Text Lem

namespace C17

/-- an indenter whose glyph contains no line break -/
def indOk (i : Indentizer) : Bool :=
  match i.bullet with
  | none => true
  | some (_, g) => Spec.breakFree g

/-- the operation's own inputs are well-formed: nested blocks respect the invariant, lines written
    through the setter contain no line break, glyphs contain no line break -/
def HOp.ok : HOp → Bool
  | .append c => Spec.wfContent c
  | .add c => Spec.wfContent c
  | .setLines ls => ls.all Spec.breakFree
  | .indent (some i) => indOk i
  | .setIndentor i => indOk i
  | _ => true

/-- the invariant of the object: no stored line contains a line break (and the stored indenter's
    glyph does not either) -/
def Inv (o : TObj) : Prop := (∀ l ∈ o.tb.lines, Spec.breakFree l = true) ∧ indOk o.tb.ind = true

theorem breakFree_spaces (n : Nat) : Spec.breakFree (spaces n) = true :=
  List.all_eq_true.mpr fun c hc => by rw [List.eq_of_mem_replicate hc]; rfl

theorem breakFree_bulletized (i : Indentizer) (h : indOk i = true) : Spec.breakFree i.bulletized = true := by
  obtain ⟨ind, b⟩ := i
  cases b with
  | none => rfl
  | some p =>
    have hg : Spec.breakFree p.2 = true := h
    cases ind with
    | spaces n => exact breakFree_append (breakFree_append hg rfl) (breakFree_spaces _)
    | tab => exact breakFree_append hg rfl

theorem breakFree_whitespace (i : Indentizer) : Spec.breakFree i.whitespace = true := by
  obtain ⟨ind, b⟩ := i
  cases ind with
  | tab => rfl
  | spaces n => cases b <;> exact breakFree_spaces _

theorem breakFree_onlyIndent (i : Indentizer) (l : Str) (h : Spec.breakFree l = true) :
    Spec.breakFree (i.onlyIndent l) = true := by
  unfold Indentizer.onlyIndent
  cases isBlank l with
  | true => rfl
  | false => exact breakFree_append (breakFree_whitespace i) h

/-- one indentation step keeps every line free of line breaks -/
theorem toListFlat_breakFree (i : Indentizer) (hi : indOk i = true) (ls : List Str)
    (h : ∀ l ∈ ls, Spec.breakFree l = true) : ∀ l ∈ i.toListFlat ls, Spec.breakFree l = true := by
  have bullet : ∀ a ∈ ls, Spec.breakFree (strip (i.bulletized ++ a)) = true := fun a ha =>
    breakFree_strip (breakFree_append (breakFree_bulletized i hi) (h a ha))
  have plain : ∀ a ∈ ls, Spec.breakFree (i.onlyIndent a) = true := fun a ha => breakFree_onlyIndent i a (h a ha)
  unfold Indentizer.toListFlat
  cases i.bullet with
  | none => exact List.forall_mem_map.mpr plain
  | some p =>
    obtain ⟨m, g⟩ := p
    cases m with
    | all => exact List.forall_mem_map.mpr bullet
    | firstOnly =>
      cases ls with
      | nil => nofun
      | cons a as =>
        exact List.forall_mem_cons.mpr ⟨bullet a List.mem_cons_self,
          List.forall_mem_map.mpr fun b hb => plain b (List.mem_cons_of_mem _ hb)⟩

theorem trimList_sublist (ls : List Str) (e : Bool) : (trimList ls e).Sublist ls := by
  have front : ∀ xs : List Str, (trimFront xs).Sublist xs := fun xs => trimFront_eq xs ▸ List.dropWhile_sublist _
  have back : ∀ xs : List Str, (trimFront xs.reverse).reverse.Sublist xs := fun xs => by
    have := (front xs.reverse).reverse
    rwa [List.reverse_reverse] at this
  cases e with
  | true => exact back ls
  | false => exact (back _).trans (front ls)

/-- **the invariant is inductive**: every operation with well-formed inputs keeps it -/
theorem step_inv (o : TObj) (op : HOp) (hop : HOp.ok op = true) (h : Inv o) : Inv (o.step op).1 := by
  obtain ⟨hl, hi⟩ := h
  cases op with
  | append c => exact ⟨fun l hm => (List.mem_append.mp hm).elim (hl l) (no_break c hop l), hi⟩
  | trim e => exact ⟨fun l hm => hl l ((trimList_sublist _ e).subset hm), hi⟩
  | indent i =>
    cases i with
    | none => exact ⟨toListFlat_breakFree o.tb.ind hi o.tb.lines hl, hi⟩
    | some i => exact ⟨toListFlat_breakFree i hop o.tb.lines hl, hop⟩
  | setIndentor i => exact ⟨hl, hop⟩
  | setLines ls => exact ⟨List.all_eq_true.mp hop, hi⟩
  | add | pour | observe => exact ⟨hl, hi⟩

/-- construction establishes the invariant -/
theorem new_inv (isC : Bool) (c h : Content) (hc : Spec.wfContent c = true) : Inv (TObj.new isC c h) := by
  cases isC <;> exact ⟨no_break c hc, rfl⟩

theorem run_inv (P : TObj → Prop) (Q : HOp → Prop) (hstep : ∀ o op, Q op → P o → P (o.step op).1)
    {o : TObj} {ops : List HOp} (h : P o) (hops : ∀ op ∈ ops, Q op) :
    ∀ x ∈ o.run ops, ∃ o', P o' ∧ x.lines = o'.tb.lines ∧ x.str = o'.str := by
  induction ops generalizing o with
  | nil => nofun
  | cons op ops ih =>
    obtain ⟨hq, hqs⟩ := List.forall_mem_cons.mp hops
    have hs := hstep o op hq h
    exact List.forall_mem_cons.mpr ⟨⟨_, hs, rfl, rfl⟩, ih hs hqs⟩

/-- **C17 over histories — no stored line ever contains a line break**: in every state an object
    reaches through any sequence of well-formed operations, every line of its buffer is free of line
    breaks -/
theorem hist_no_break (o : TObj) (ops : List HOp) (hops : ∀ op ∈ ops, HOp.ok op = true) (h : Inv o) :
    ∀ x ∈ o.run ops, ∀ l ∈ x.lines, Spec.breakFree l = true := by
  intro x hx
  obtain ⟨o', ho', hl, _⟩ := run_inv Inv (HOp.ok · = true) step_inv h hops x hx
  exact hl ▸ ho'.1

/-- no operation touches the header or turns a comment into a plain block -/
theorem step_frame (o : TObj) (op : HOp) :
    (o.step op).1.tb.header = o.tb.header ∧ (o.step op).1.isComment = o.isComment := by
  cases op <;> exact ⟨rfl, rfl⟩

/-- **string form over histories**: after any sequence of operations the string form of a plain block
    is every header line and every *current* content line followed by exactly one newline -/
theorem hist_str (o : TObj) (ops : List HOp) (hc : o.isComment = false) :
    ∀ x ∈ o.run ops, x.str = Spec.strSpec o.tb.header x.lines := by
  intro x hx
  obtain ⟨o', ⟨hc', hh⟩, hl, hs⟩ := run_inv (fun o' => o'.isComment = false ∧ o'.tb.header = o.tb.header)
    (fun _ => True) (fun o' op _ h => ⟨(step_frame o' op).2.trans h.1, (step_frame o' op).1.trans h.2⟩)
    ⟨hc, rfl⟩ (fun _ _ => trivial) x hx
  rw [hs, hl, ← hh, TObj.str, hc']
  exact str_spec o'.tb

/-- operations that leave the stored indenter alone -/
def HOp.keepsIndenter : HOp → Bool
  | .indent (some _) => false
  | .setIndentor _ => false
  | _ => true

theorem step_ind (o : TObj) (op : HOp) (h : HOp.keepsIndenter op = true) : (o.step op).1.tb.ind = o.tb.ind := by
  cases op with
  | indent i => cases i with
    | none => rfl
    | some i => cases h
  | setIndentor i => cases h
  | _ => rfl

/-- **C19 over histories**: a Comment that is extended, trimmed, added to, poured, observed, has its
    lines replaced — in any order, any number of times, renderings in between — renders in every state
    as the `//` rendering of its *current* lines: every line starts with `//` and carries the text -/
theorem hist_comment (o : TObj) (ops : List HOp) (hc : o.isComment = true) (hi : o.tb.ind = commentIndentizer)
    (hk : ∀ op ∈ ops, HOp.keepsIndenter op = true) :
    ∀ x ∈ o.run ops, x.str = Spec.commentSpec x.lines := by
  intro x hx
  obtain ⟨o', ⟨hc', hi'⟩, hl, hs⟩ := run_inv (fun o' => o'.isComment = true ∧ o'.tb.ind = commentIndentizer)
    (HOp.keepsIndenter · = true)
    (fun o' op hop h => ⟨(step_frame o' op).2.trans h.1, (step_ind o' op hop).trans h.2⟩) ⟨hc, hi⟩ hk x hx
  rw [hs, hl, TObj.str, hc', hi']
  exact C19.render_spec _

/-- rendering (observing, pouring, adding) never changes the object -/
theorem observation_is_pure (o : TObj) (op : HOp)
    (h : match op with | .observe | .add _ | .pour _ => True | _ => False) : (o.step op).1 = o := by
  cases op with
  | observe | add | pour => rfl
  | _ => exact h.elim

/-- appending in a history is concatenation with the pieces of the content -/
theorem hist_append (o : TObj) (c : Content) (h : Spec.wfContent c = true) :
    (o.step (.append c)).1.tb.lines = o.tb.lines ++ Spec.piecesTop c := append_concat o.tb c h

/-- trimming in a history removes only leading / trailing blank lines -/
theorem hist_trim (o : TObj) (e : Bool) :
    (o.step (.trim e)).1.tb.lines = Spec.trimSpec o.tb.lines e := trim_spec _ _

/-- indenting in a history satisfies every clause of the C18 step specification -/
theorem hist_indent (o : TObj) (i : Indentizer) :
    Spec.holdsC18_step i o.tb.lines (o.step (.indent (some i))).1.tb.lines = [] := C18.step_spec i _

/-- non-vacuity: a concrete history (render, trim, render again) on a block with a header -/
example : (TObj.new false (.list [.str [], .str (L "a"), .str []]) (.str (L "H"))).run
      [.observe, .trim false, .pour true] =
    [{ lines := [[], L "a", []], str := L "H\n\na\n\n", extra := none },
     { lines := [L "a"], str := L "H\na\n", extra := none },
     { lines := [L "a"], str := L "H\na\n", extra := some [L "H", L "a"] }] := by decide +kernel

/-! ### several blocks handed to one another -/

/-- the object a multi-object step is applied to (none: the step only produces a new block) -/
def HOp2.target : HOp2 → Option Nat
  | .on o _ => some o
  | .appendRef o _ => some o
  | .addRef _ _ => none
  | .newFrom o _ _ => some o
  | .appendLinesOf o _ => some o
  | .newWithHeader o _ _ => some o
  | .clone o _ => some o

theorem objAt_set_ne {objs : List TObj} {o i : Nat} {x : TObj} (h : i ≠ o) :
    objAt (objs.set o x) i = objAt objs i := by
  simp [objAt, List.getElem?_set_ne (Ne.symm h)]

/-- **blocks stay independent**: handing a block to another one (append, `+=`, `+`, construction from it,
    appending its `lines`) copies lines; a step changes no block other than the one it is applied to —
    in particular never the block that was handed over -/
theorem step2_frame (objs : List TObj) (op : HOp2) (i : Nat) (h : HOp2.target op ≠ some i) :
    objAt (step2 objs op).1 i = objAt objs i := by
  -- every step but `addRef` is `objs.set o _` for its target `o`
  cases op with
  | addRef o j => rfl
  | _ => exact objAt_set_ne fun e => h (congrArg some e.symm)

theorem objAt_set_self (objs : List TObj) (o : Nat) (x : TObj) (ho : o < objs.length) :
    objAt (objs.set o x) o = x := by
  simp [objAt, ho]

/-- a deep copy is an equal block … -/
theorem clone_equal (objs : List TObj) (o j : Nat) (ho : o < objs.length) :
    objAt (step2 objs (.clone o j)).1 o = objAt objs j := objAt_set_self objs o _ ho

/-- … and a separate one: a step whose target is the copy leaves the original as it was -/
theorem clone_independent (objs : List TObj) (o j : Nat) (op : HOp2) (hne : j ≠ o)
    (ht : HOp2.target op = some o) :
    objAt (step2 (step2 objs (.clone o j)).1 op).1 j = objAt objs j := by
  have h : some o ≠ some j := fun e => hne (Option.some.inj e).symm
  rw [step2_frame _ op j (ht ▸ h)]
  exact step2_frame objs (.clone o j) j h

/-- appending a block is appending its current lines (its header is not taken over) -/
theorem appendRef_lines (objs : List TObj) (o j : Nat) (ho : o < objs.length) :
    (objAt (step2 objs (.appendRef o j)).1 o).tb.lines = (objAt objs o).tb.lines ++ (objAt objs j).tb.lines :=
  congrArg (·.tb.lines) (objAt_set_self objs o _ ho)

end C17
