/-
  C15 — The parser rejects malformed input only with its documented errors.
  The error type carries Python's failure modes (PyErr.internal …), so this is not true by typing: it says that every
  place where the parser model raises is one of the two documented errors.  That dznpy raises the documented error
  where the model does (and no KeyError or the like instead) is checked by running mutated documents through both.
-/
import DznModel.SpecParser
import DznProofs.Lemmas.Parser
open Py Ast JVal Parser Lem

namespace C15

/-- the documented errors: the parser's own error and the identifier-validation error -/
def Allowed (e : PyErr) : Prop := e = .lib .DznJsonError ∨ e = .lib .NamespaceIdsTypeError

abbrev Good {α} (r : R α) : Prop := FailsIn Allowed r

theorem good_jerr {α} : Good (jerr : R α) := .error (.inl rfl)
theorem good_nserr {α} : Good (.error (.lib .NamespaceIdsTypeError) : R α) := .error (.inr rfl)

/-! Each parser below is a `do` block; the proof that it is good follows it line by line. -/

theorem good_asObj {j} : Good (asObj j) := by
  cases j with
  | obj _ => exact FailsIn.ok
  | _ => exact good_jerr
theorem good_tryGetStr {o k} : Good (tryGetStr o k) := by
  unfold tryGetStr
  cases lookup k o with
  | none => exact FailsIn.ok
  | some v =>
    cases v with
    | str _ => exact FailsIn.ok
    | _ => exact good_jerr
theorem good_getStr {o k} : Good (getStr o k) := good_tryGetStr.bind fun | none => good_jerr | some _ => FailsIn.pure
theorem good_tryGetDict {o k} : Good (tryGetDict o k) := by
  unfold tryGetDict
  cases lookup k o with
  | none => exact FailsIn.ok
  | some v => exact FailsIn.ok.ite good_jerr
theorem good_getDict {o k} : Good (getDict o k) := good_tryGetDict.bind fun | none => good_jerr | some _ => FailsIn.pure
theorem good_getInt {o k} : Good (getInt o k) := by
  unfold getInt
  cases lookup k o with
  | none => exact good_jerr
  | some v =>
    cases v with
    | int _ => exact FailsIn.ok
    | bool _ => exact FailsIn.ok
    | _ => exact good_jerr
theorem good_getList {o k} : Good (getList o k) := by
  unfold getList
  cases lookup k o with
  | none => exact good_jerr
  | some v =>
    cases v with
    | arr _ => exact FailsIn.ok
    | _ => exact good_jerr
theorem good_assertClass {o c} : Good (assertClass o c) := by
  unfold assertClass
  cases lookup (L "<class>") o with
  | none => exact good_jerr
  | some v => exact FailsIn.ok.ite good_jerr
theorem good_getClassValue {j} : Good (getClassValue j) := by
  cases j with
  | obj kvs =>
    unfold getClassValue
    dsimp only
    cases lookup (L "<class>") kvs with
    | none => exact good_jerr
    | some v => exact FailsIn.ok
  | _ => exact good_jerr
theorem good_idsOfJson {l} : Good (idsOfJson l) := by
  unfold idsOfJson
  cases l.mapM strOf? with
  | none => exact good_nserr
  | some strs => exact FailsIn.ok.ite good_nserr

theorem good_asClass {α} {c : Str} {k : Obj → R α} {j} (hk : ∀ o, Good (k o)) :
    Good (do let o ← asObj j; assertClass o c; k o) :=
  good_asObj.bind fun o => good_assertClass.bind fun _ => hk o

theorem good_elements {α} {c : Str} {p : JVal → R α} {j} (hp : ∀ a, Good (p a)) :
    Good (do let o ← asObj j; assertClass o c; (← getList o (L "elements")).mapM p) :=
  good_asClass fun _ => good_getList.bind fun _ => .mapM fun a _ => hp a

theorem good_parseScopeName {j} : Good (parseScopeName j) :=
  good_asClass fun _ => good_getList.bind fun _ => good_jerr.ite good_idsOfJson
theorem good_parseFormalDirection {s} : Good (parseFormalDirection s) :=
  FailsIn.ok.ite (FailsIn.ok.ite (FailsIn.ok.ite good_jerr))
theorem good_parseFormal {j} : Good (parseFormal j) :=
  good_asClass fun _ => good_getStr.bind fun _ => good_getDict.bind fun _ => good_parseScopeName.bind fun _ =>
  good_getStr.bind fun _ => good_parseFormalDirection.bind fun _ => FailsIn.pure
theorem good_parseFormals {j} : Good (parseFormals j) := good_elements fun _ => good_parseFormal
theorem good_parseEventDirection {s} : Good (parseEventDirection s) := FailsIn.ok.ite (FailsIn.ok.ite good_jerr)
theorem good_parseSignature {j} : Good (parseSignature j) :=
  good_asClass fun _ => good_getDict.bind fun _ => good_parseScopeName.bind fun _ => good_getDict.bind fun _ =>
  good_parseFormals.bind fun _ => FailsIn.pure
theorem good_parseEvent {j} : Good (parseEvent j) :=
  good_asClass fun _ => good_getStr.bind fun _ => good_getDict.bind fun _ => good_parseSignature.bind fun (_, _) =>
  good_getStr.bind fun _ => good_parseEventDirection.bind fun _ => good_jerr.ite (good_jerr.ite FailsIn.pure)
theorem good_parseEvents {j} : Good (parseEvents j) := good_elements fun _ => good_parseEvent
theorem good_parsePortDirection {s} : Good (parsePortDirection s) := FailsIn.ok.ite (FailsIn.ok.ite good_jerr)
theorem good_parseInjected {j} : Good (parseInjected j) :=
  good_asClass fun _ => good_tryGetStr.bind fun
    | none => FailsIn.pure
    | some _ => FailsIn.pure.ite good_jerr
theorem good_parsePort {j} : Good (parsePort j) :=
  good_asClass fun _ => good_getStr.bind fun _ => good_getDict.bind fun _ => good_parseScopeName.bind fun _ =>
  good_getStr.bind fun _ => good_parsePortDirection.bind fun _ => good_getDict.bind fun _ =>
  good_parseFormals.bind fun _ => good_parseInjected.bind fun _ => FailsIn.pure
theorem good_parsePorts {j} : Good (parsePorts j) := good_elements fun _ => good_parsePort
theorem good_parseFields {j} : Good (parseFields j) := good_asClass fun _ => good_getList
theorem good_parseEnum {j ns} : Good (parseEnum j ns) :=
  good_asClass fun _ => good_getDict.bind fun _ => good_parseScopeName.bind fun _ => good_getDict.bind fun _ =>
  good_parseFields.bind fun _ => FailsIn.pure
theorem good_parseRange {j} : Good (parseRange j) :=
  good_asClass fun _ => good_getInt.bind fun _ => good_getInt.bind fun _ => FailsIn.pure
theorem good_parseSubint {j ns} : Good (parseSubint j ns) :=
  good_asClass fun _ => good_getDict.bind fun _ => good_parseScopeName.bind fun _ => good_getDict.bind fun _ =>
  good_parseRange.bind fun (_, _) => FailsIn.pure
theorem good_parseData {j} : Good (parseData j) := good_asClass fun _ => good_getStr
theorem good_parseExtern {j ns} : Good (parseExtern j ns) :=
  good_asClass fun _ => good_getDict.bind fun _ => good_parseScopeName.bind fun _ => good_getDict.bind fun _ =>
  good_parseData.bind fun _ => FailsIn.pure
theorem good_parseComponentLike {c j ns} : Good (parseComponentLike c j ns) :=
  good_asClass fun _ => good_getDict.bind fun _ => good_parseScopeName.bind fun _ => good_getDict.bind fun _ =>
  good_parsePorts.bind fun _ => FailsIn.pure
theorem good_parseTypeItem {ns j} : Good (parseTypeItem ns j) :=
  good_getClassValue.bind fun _ =>
    (good_parseEnum.bind fun _ => FailsIn.pure).ite ((good_parseSubint.bind fun _ => FailsIn.pure).ite FailsIn.pure)
theorem good_parseTypes {j ns} : Good (parseTypes j ns) :=
  good_asClass fun _ => good_getList.bind fun _ => (FailsIn.mapM fun _ _ => good_parseTypeItem).bind fun _ => FailsIn.pure
theorem good_parseInterface {j ns} : Good (parseInterface j ns) :=
  good_asClass fun _ => good_getDict.bind fun _ => good_parseScopeName.bind fun _ => good_getDict.bind fun _ =>
  good_parseTypes.bind fun _ => good_getDict.bind fun _ => good_parseEvents.bind fun _ => FailsIn.pure
theorem good_parseInstance {j} : Good (parseInstance j) :=
  good_asClass fun _ => good_getStr.bind fun _ => good_getDict.bind fun _ => good_parseScopeName.bind fun _ => FailsIn.pure
theorem good_parseInstances {j} : Good (parseInstances j) := good_elements fun _ => good_parseInstance
theorem good_parseEndpoint {j} : Good (parseEndpoint j) :=
  good_asClass fun _ => good_getStr.bind fun _ => good_tryGetStr.bind fun _ => FailsIn.pure
theorem good_parseBinding {j} : Good (parseBinding j) :=
  good_asClass fun _ => good_getDict.bind fun _ => good_parseEndpoint.bind fun _ => good_getDict.bind fun _ =>
  good_parseEndpoint.bind fun _ => FailsIn.pure
theorem good_parseBindings {j} : Good (parseBindings j) := good_elements fun _ => good_parseBinding
theorem good_parseSystem {j ns} : Good (parseSystem j ns) :=
  good_asClass fun _ => good_getDict.bind fun _ => good_parseScopeName.bind fun _ => good_getDict.bind fun _ =>
  good_parsePorts.bind fun _ => good_getDict.bind fun _ => good_parseInstances.bind fun _ => good_getDict.bind fun _ =>
  good_parseBindings.bind fun _ => FailsIn.pure
theorem good_parseFilename {j} : Good (parseFilename j) := good_asClass fun _ => good_getStr
theorem good_parseImport {j} : Good (parseImport j) := good_asClass fun _ => good_getStr
theorem good_parseComment {j} : Good (parseComment j) := good_asClass fun _ => good_getStr
theorem good_parseNamespaceHead {kvs} : Good (parseNamespaceHead kvs) := by
  refine good_assertClass.bind fun _ => good_getDict.bind fun _ => good_parseScopeName.bind fun _ => ?_
  cases lookupW (L "elements") kvs with
  | none => exact good_jerr
  | some x =>
    obtain ⟨v, _⟩ := x
    cases v with
    | arr _ => exact FailsIn.pure
    | _ => exact good_jerr
theorem good_parseRootComment {o} : Good (parseRootComment o) :=
  good_tryGetDict.bind fun
    | none => FailsIn.pure
    | some _ => good_parseComment.bind fun _ => FailsIn.pure
theorem good_parseRoot {j} : Good (parseRoot j) :=
  good_asClass fun _ => good_parseRootComment.bind fun _ => good_getList.bind fun _ => good_getStr.bind fun _ => FailsIn.pure

/-- `parseSimple` skips the element or appends the result of one declaration parser; only
    `parseInterface` touches `interfaces` -/
theorem parseSimple_cases (P : FC × Option PyErr → Prop) (cls j ns fc) (skip : P (fc, none))
    (itf : P (addTo fc (parseInterface j ns) (fun fc i =>
      { fc with interfaces := fc.interfaces ++ [i], enums := fc.enums ++ i.enums, subints := fc.subints ++ i.subints })))
    (other : ∀ {α} {r : R α} (f : FC → α → FC), Good r → (∀ fc a, (f fc a).interfaces = fc.interfaces) →
      P (addTo fc r f)) :
    P (parseSimple cls j ns fc) :=
  -- term mode on purpose: `split` is very slow on a goal of this size
  iteInduction (fun _ => other _ good_parseComponentLike fun _ _ => rfl) fun _ =>
  iteInduction (fun _ => other _ good_parseEnum fun _ _ => rfl) fun _ =>
  iteInduction (fun _ => other _ good_parseExtern fun _ _ => rfl) fun _ =>
  iteInduction (fun _ => other _ good_parseComponentLike fun _ _ => rfl) fun _ =>
  iteInduction (fun _ => other _ good_parseFilename fun _ _ => rfl) fun _ =>
  iteInduction (fun _ => other _ good_parseImport fun _ _ => rfl) fun _ =>
  iteInduction (fun _ => itf) fun _ =>
  iteInduction (fun _ => other _ good_parseSystem fun _ _ => rfl) fun _ =>
  iteInduction (fun _ => other _ good_parseSubint fun _ _ => rfl) fun _ => skip

theorem addTo_allowed {α} {r : R α} {fc : FC} {f : FC → α → FC} (hr : Good r) :
    ∀ e, (addTo fc r f).2 = some e → Allowed e := by
  cases r with
  | ok a => exact nofun
  | error e' => exact fun e h => by cases h; exact hr _ rfl

theorem parseElements_spec (I : FC → Prop) (hI : ∀ cls j ns fc, I fc → I (parseSimple cls j ns fc).1) :
    (∀ j ns fc, I fc → I (parseElement j ns fc).1 ∧ ∀ e, (parseElement j ns fc).2 = some e → Allowed e) ∧
    (∀ js ns fc, I fc →
      I (parseElements js ns fc).1 ∧ ∀ e, (parseElements js ns fc).2 = some e → Allowed e) := by
  apply parseElement.mutual_induct
  · intro ns fc kvs h
    rw [parseElement_noclass ns fc h]
    exact fun hi => ⟨hi, fun e he => by cases he; exact .inl rfl⟩
  · intro ns fc kvs cls h hc name elems _ hhead ih
    rw [parseElement_namespace ns fc h hc hhead]
    exact ih
  · intro ns fc kvs cls h hc e' hhead
    rw [parseElement_namespace_error ns fc h hc hhead]
    exact fun hi => ⟨hi, fun e he => by cases he; exact good_parseNamespaceHead _ hhead⟩
  · intro ns fc kvs cls h hc
    rw [parseElement_simple ns fc h (Bool.eq_false_iff.2 hc)]
    exact fun hi => ⟨hI _ _ _ _ hi, parseSimple_cases (fun r => ∀ e, r.2 = some e → Allowed e) _ _ _ _ nofun
      (addTo_allowed good_parseInterface) fun _ hr _ => addTo_allowed hr⟩
  · intro j ns fc hj
    rw [parseElement_nonobj ns fc hj]
    exact fun hi => ⟨hi, nofun⟩
  · intro ns fc
    rw [parseElements]
    exact fun hi => ⟨hi, nofun⟩
  · intro ns fc j rest fc' h ih1 ih2
    rw [parseElements, h]
    rw [h] at ih1
    exact fun hi => ih2 (ih1 hi).1
  · intro ns fc j rest fc' e' h ih1
    rw [parseElements, h]
    rw [h] at ih1
    exact ih1

theorem parse_spec (I : FC → Prop) (hI : ∀ cls j ns fc, I fc → I (parseSimple cls j ns fc).1) (h0 : I {})
    (j : JVal) :
    (∀ f, parse j = .ok f → I f) ∧ Good (parse j) := by
  have hloop elems := (parseElements_spec I hI).2 elems {} {} h0
  refine parse_cases (fun r => (∀ f, r = .ok f → I f) ∧ Good r) j ?_ ?_ ?_
  · exact fun e h => ⟨nofun, fun e' h' => by cases h'; exact good_parseRoot e h⟩
  · intro elems fc _ hp
    have := hloop elems
    rw [hp] at this
    exact ⟨fun f hf => by cases hf; exact this.1, FailsIn.ok⟩
  · intro elems fc e _ hp
    have := hloop elems
    rw [hp] at this
    exact ⟨nofun, fun e' h' => by cases h'; exact this.2 e rfl⟩

/-- **C15 (no internal error)**: for *every* JSON value, parsing returns file contents or fails
    with the parser's documented error or the identifier-validation error — never with an
    internal exception (KeyError, AttributeError, IndexError, TypeError, …) -/
theorem no_internal (j : JVal) :
    (∃ f, parse j = .ok f) ∨ parse j = .error (.lib .DznJsonError) ∨
      parse j = .error (.lib .NamespaceIdsTypeError) := by
  have hg : Good (parse j) := (parse_spec (fun _ => True) (fun _ _ _ _ _ => trivial) trivial j).2
  cases h : parse j with
  | ok f => exact .inl ⟨f, rfl⟩
  | error e => exact .inr ((hg e h).imp (congrArg _) (congrArg _))

/-- an out event with a non-void reply or with an `out` parameter is always refused -/
theorem parse_event_out_ok (j : JVal) (e : Event) (h : parseEvent j = .ok e) (hd : e.dir = .out) :
    e.replyType = [L "void"] ∧ ∀ f ∈ e.formals, f.dir ≠ .out := by
  obtain ⟨_, _, _, _, _, _, _, _, hout⟩ := parseEvent_ok h
  exact hout hd

/-! ### lifting the out-event check to whole documents -/

theorem parseInterface_outEventsOk {j ns} {i : InterfaceD} (h : parseInterface j ns = .ok i) {fc : FC}
    (hfc : Spec.fcOutEventsOk fc = true) {es ss} :
    Spec.fcOutEventsOk { fc with interfaces := fc.interfaces ++ [i], enums := es, subints := ss } = true := by
  obtain ⟨_, _, _, _, hes⟩ := parseInterface_ok h
  obtain ⟨_, _, _, _, hmap⟩ := elements_ok hes
  simp only [Spec.fcOutEventsOk, List.all_append, List.all_cons, List.all_nil, Bool.and_true, Bool.and_eq_true]
  refine ⟨hfc, List.all_eq_true.2 fun e he => ?_⟩
  obtain ⟨a, _, ha⟩ := mapM_mem hmap e he
  cases hd : e.dir with
  | in_ => rfl
  | out =>
    obtain ⟨hv, hf⟩ := parse_event_out_ok a e ha hd
    simpa [hv] using hf

/-- **C15 (out events)**: no out event with a non-void reply or with an `out` parameter survives
    in any successfully parsed document -/
theorem out_event_refused (j : JVal) (f : FC) (h : parse j = .ok f) : Spec.fcOutEventsOk f = true := by
  refine (parse_spec (Spec.fcOutEventsOk · = true) (fun cls j ns fc hfc => ?_) rfl j).1 f h
  refine parseSimple_cases (fun r => Spec.fcOutEventsOk r.1 = true) cls j ns fc hfc ?_ fun {_ r} f _ hf => ?_
  · cases hi : parseInterface j ns with
    | ok i => exact parseInterface_outEventsOk hi hfc
    | error e => exact hfc
  · cases r with
    | ok a =>
      -- the check reads `interfaces` only
      have : Spec.fcOutEventsOk (f fc a) = Spec.fcOutEventsOk fc := by unfold Spec.fcOutEventsOk; rw [hf]
      exact this ▸ hfc
    | error e => exact hfc

end C15
