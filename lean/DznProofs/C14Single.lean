/-
  C14 / C07 — what a caller does with a lookup result: `FindResult.has_one_instance` and
  `FindResult.get_single_instance` with every type hint.  A declaration is handed out exactly when it
  is the only declaration on the scope chain and of the hinted kind; every other outcome is a
  `FindError`; the test and the getter agree.  The model has the getter twice — `getSingle` with a test for the
  hinted class, as the builder calls it, and `getSingleH` with every hint: they agree (`getSingleH_kind`,
  `getSingleH_absent`).
-/
import DznProofs.Lemmas.Build
import DznProofs.C14
open Py Scoping Ast AstView Lem

namespace C14

theorem getSingleH_kind (items : List Decl) (k : String) :
    getSingleH items (.kind k) = getSingle items (some (·.kind == k)) := by
  cases items with
  | nil => rfl
  | cons a r => cases r <;> rfl

theorem getSingleH_absent (items : List Decl) : getSingleH items .absent = getSingle items := by
  cases items with
  | nil => rfl
  | cons a r => cases r <;> rfl

/-- `get_single_instance(hint)` succeeds with `d` iff `d` is the only item and of the hinted kind -/
theorem getSingleH_ok_iff (items : List Decl) (k : String) (d : Decl) :
    getSingleH items (.kind k) = .ok d ↔ items = [d] ∧ d.kind = k := by
  rw [getSingleH_kind, getSingle_ok_iff, beq_iff_eq]

theorem getSingleH_absent_ok_iff (items : List Decl) (d : Decl) :
    getSingleH items .absent = .ok d ↔ items = [d] := by
  rw [getSingleH_absent, getSingle_none_ok_iff]

/-- every failure of `get_single_instance` is the documented `FindError` -/
theorem getSingleH_err (items : List Decl) (h : Hint) (e : PyErr) (he : getSingleH items h = .error e) :
    e = .lib .FindError := by
  cases h with
  | absent => exact getSingle_error (getSingleH_absent items ▸ he)
  | kind k => exact getSingle_error (getSingleH_kind items k ▸ he)
  | invalid =>
    cases items with
    | nil => exact (Except.error.inj he).symm
    | cons a r => cases r <;> exact (Except.error.inj he).symm

theorem hasOne_eq (items : List Decl) (h : Hint) (hv : h ≠ .invalid) :
    hasOne items h = .ok (getSingleH items h).toBool := by
  cases items with
  | nil => rfl
  | cons a r =>
    cases r with
    | cons b r' => rfl
    | nil =>
      cases h with
      | absent => rfl
      | invalid => exact absurd rfl hv
      | kind k =>
        show Except.ok (a.kind == k) = .ok (if (a.kind == k) = true then Except.ok a else _).toBool
        cases a.kind == k <;> rfl

/-- **test and getter agree**: `has_one_instance(hint)` is true exactly when `get_single_instance(hint)`
    hands out a declaration (for the absent and the seven valid hints) -/
theorem hasOne_iff_getSingle (items : List Decl) (h : Hint) (hv : h ≠ .invalid) :
    hasOne items h = .ok true ↔ ∃ d, getSingleH items h = .ok d := by
  rw [hasOne_eq items h hv]
  cases getSingleH items h with
  | ok d => exact iff_of_true rfl ⟨d, rfl⟩
  | error e => exact ⟨fun h => Bool.noConfusion (Except.ok.inj h), fun ⟨_, h⟩ => by cases h⟩

/-- … and with the lookup in front: from a calling scope, `find_fqn(...).get_single_instance(kind)`
    hands out `d` iff `d` is the one declaration whose fully qualified name is on the scope chain, and
    it is of that kind -/
theorem lookup_single (f : FC) (name scope : Ids) (k : String) (d : Decl) :
    getSingleH (findFqn f name scope) (.kind k) = .ok d ↔
      Spec.findFqnSpec f name scope = [d] ∧ d.kind = k := by
  rw [getSingleH_ok_iff, find_fqn_spec]

end C14
