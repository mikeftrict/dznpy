import DznModel.Sem
import DznProofs.C01Gen
import DznProofs.C13Valid
open Ast Shell Sem C13

namespace C01

/-! ### the hypotheses of `build_forwards_in_event` are satisfiable: the worked model of
    `C13.exValid` (component `N.C`, provides port `p : N.I`, in-event `go(in T a)`, everything MTS) -/

def exB : BuildResult := match build exFc exCfg with | .ok b => b | .error _ => default

theorem exB_ok : build exFc exCfg = .ok exB := by
  obtain ⟨r, hr⟩ := valid_succeeds exFc exCfg exValid
  unfold exB; rw [hr]

def exP : CppPortItf := exB.ir.provides.headD default
def exEv : Event := exP.dzn.itf.events.headD default

theorem ex_facts :
    exB.ir.provides.length = 1 ∧ exB.ir.requires.length = 0 ∧ exB.allPorts.length = 1 ∧
    exP.dzn.itf.events.length = 1 ∧ (exB.allPorts.headD default).2.events.length = 1 ∧
    exP.dzn.sem = .mts ∧ exP.isMc = false ∧ exEv.dir = .in_ ∧ (exEv.formals.map (·.name)).Nodup ∧
    exEv.formals.length = 1 ∧ (ctorCheck exB.ir false false).isNone = true := by
  decide +kernel

theorem singleton_of_length_one {α} [Inhabited α] {l : List α} (h : l.length = 1) : l = [l.headD default] := by
  match l, h with
  | [_], _ => rfl

/-- **non-vacuity of `build_forwards_in_event`**: on the worked model every hypothesis holds, so the
    conclusion is a fact about this shell: calling `go(7)` on `m_ppP` is observed once by the
    component's `p.go` with argument 7 in dispatcher context -/
theorem ex_forwarded :
    ∃ w ps, construct exB.ir exB.allPorts exB.grantIndex false false none (L "x") false = .ok w ∧
      ps.map (·.name) = exEv.formals.map (·.name) ∧
      invoke 3 w ⟨.bnd exP.target, .in_, exEv.name⟩ [7] =
        ({ w with shellCalls := w.shellCalls + 1, pumpTouched := true, executed := w.executed + 1,
                  out := obsLine .comp exP.name exEv [7] true :: w.out },
         .ok (if isVoid exEv then none else some (w.reply true exP.name exEv.name))
             (writeBack ps [7] (ps.map (·.name)) (rewritten exEv [7]))) := by
  obtain ⟨hprov, hreq, hall, hevs, hallevs, hsem, hmc, hdir, hnd, hlen, hctor⟩ := ex_facts
  have hprov : exB.ir.provides = [exP] := singleton_of_length_one hprov
  have hreq : exB.ir.requires = [] := List.length_eq_zero_iff.mp hreq
  have hevs : exP.dzn.itf.events = [exEv] := singleton_of_length_one hevs
  have hall := singleton_of_length_one hall
  have hallevs := singleton_of_length_one hallevs
  apply build_forwards_in_event exFc exCfg exB exB_ok exP (by rw [hprov]; exact List.mem_singleton_self _) hsem hmc
    exEv (by simp [inEvents, hevs, hdir])
  case hinj =>
    intro q hq _
    rw [hprov, hreq] at hq
    simpa using hq
  case hnames => intro q hq; rw [hreq] at hq; cases hq
  case hevu =>
    intro e he _ _
    rw [hevs] at he
    simpa using he
  case hfn => exact hnd
  case hu =>
    -- one port with one event: any two declared events are the same
    intro p itf ev p' itf' ev' hp hev hp' hev' _
    rw [hall] at hp hp'
    have e := List.mem_singleton.mp hp
    cases e.trans (List.mem_singleton.mp hp').symm
    rw [show itf = _ from congrArg Prod.snd e, hallevs] at hev hev'
    exact ⟨rfl, (List.mem_singleton.mp hev).trans (List.mem_singleton.mp hev').symm⟩
  case hf => exact Option.isNone_iff_eq_none.mp hctor
  case hlen => exact hlen

end C01
