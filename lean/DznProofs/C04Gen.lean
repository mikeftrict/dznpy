/-
  C04 (continued) — the generated multi-client wrappers executed over whole histories.

  `C04.refines_partial` is about the abstract selector machine (`selStep`).  Here the wrappers the
  generator emits (`mcClaim`, `mcRelease`, `mcDeliver` handlers of the wiring IR) are *executed* by
  the semantics (`Sem.invoke`): a client's claim reaches the component through the dispatcher, its
  reply comes back to that client and selects it exactly when it is the granting reply; a release
  reaches the component and deselects; calls never rebind events (`frame_invoke_drain`); and an
  out-event raised by the component is observed by exactly the selected client.  `history_refines`
  lifts this to every history of claims and releases by any number of clients.
-/
import DznModel.Sem
import DznProofs.Lemmas.Sem
import DznProofs.C01
import DznProofs.C04Spec
import DznProofs.SemReact
open Ast Shell Sem Lem SemReact

namespace C04

/-- what calls never change: which handler sits in which slot, the wiring IR, the ports -/
structure Frame (w w' : World) : Prop where
  store : w'.store = w.store
  ir : w'.ir = w.ir
  allPorts : w'.allPorts = w.allPorts
  grantIndex : w'.grantIndex = w.grantIndex

theorem Frame.refl (w : World) : Frame w w := ⟨rfl, rfl, rfl, rfl⟩
theorem Frame.trans {a b c : World} (h1 : Frame a b) (h2 : Frame b c) : Frame a c :=
  ⟨h2.store.trans h1.store, h2.ir.trans h1.ir, h2.allPorts.trans h1.allPorts, h2.grantIndex.trans h1.grantIndex⟩

theorem Frame.of_framed {w w' : World} (h : framed w' = framed w) : Frame w w' :=
  ⟨congrArg (·.1) h, congrArg (·.2.1) h, congrArg (·.2.2.1) h, congrArg (·.2.2.2.1) h⟩

/-- **calls never rebind events**: whatever is invoked and whatever the dispatcher drains, every
    slot holds afterwards what it held before -/
theorem frame_invoke_drain (n : Nat) :
    (∀ w s args, Frame w (invoke n w s args).1) ∧ (∀ w, Frame w (drain n w).1) :=
  ⟨fun w s args => .of_framed (invokeR_nil .. ▸ (framedR_invoke_drain [] n).1 w s args),
   fun w => .of_framed (drainR_nil .. ▸ (framedR_invoke_drain [] n).2 w)⟩

theorem frame_get {w w' : World} {k : RSlot} (h : Frame w w') : w'.get k = w.get k := by
  unfold World.get; rw [h.store]

/-! ### the per-client wrappers, executed -/

/-- the world after one rerouted call that the component observed -/
def afterCall (w : World) (p : Str) (ev : Event) (args : List Val) : World :=
  { w with shellCalls := w.shellCalls + 1, pumpTouched := true, executed := w.executed + 1,
           out := C01.obsLine .comp p ev args true :: w.out }

theorem afterCall_selector (w : World) (p : Str) (ev : Event) (args : List Val) (mv : Str) :
    (afterCall w p ev args).selector mv = w.selector mv := rfl

/-- **a client's claim**: the call reaches the wrapped component through the dispatcher exactly once,
    the component's reply is returned to that client, and the client becomes the selected one
    exactly when the reply is the configured granting value — otherwise the selection is untouched -/
theorem client_claim (w : World) (n : Nat) (mv p id : Str) (ev : Event) (ps ps' : List LParam)
    (byVal : List Str) (g : Str) (args : List Val) (sel : Selector) (gi : Nat)
    (hq : w.queue = [])
    (hcl : w.get ⟨.client mv id, .in_, ev.name⟩ = some (.ir (.mcClaim mv ev.name ps (ps.map (·.name)) g) ev id mv))
    (harb : w.get ⟨.arb mv, .in_, ev.name⟩ =
      some (.ir (.shell ⟨.enc p, .in_, ev.name⟩ ps' (ps'.map (·.name)) byVal) ev [] []))
    (hc : w.get ⟨.enc p, .in_, ev.name⟩ = some (.scripted .comp p ev))
    (hsel : w.selector mv = some sel) (hnv : isVoid ev = false) (hgi : w.grantIndex = some gi)
    (hlen : ps.length = args.length) (hnd : (ps.map (·.name)).Nodup)
    (hlen' : ps'.length = args.length) (hnd' : (ps'.map (·.name)).Nodup) :
    invoke (n + 4) w ⟨.client mv id, .in_, ev.name⟩ args =
      ((if w.reply true p ev.name = (gi : Int) then (afterCall w p ev args).setSelector (sel.select id)
        else afterCall w p ev args),
       .ok (some (w.reply true p ev.name))
           (writeBack ps args (ps.map (·.name)) (writeBack ps' args (ps'.map (·.name)) (rewritten ev args)))) := by
  have hcall : invoke (n + 3) w ⟨.arb mv, .in_, ev.name⟩ args = (afterCall w p ev args, _) :=
    C01.shell_call n hq harb hc hlen' hnd'
  have hg : (afterCall w p ev args).grantIndex = some gi := hgi
  rw [← invokeR_nil, invokeR_mcClaim hcl]
  simp only [evalArgs_self ps args hlen hnd, invokeR_nil, hcall, hnv, hg, afterCall_selector, hsel, Bool.false_eq_true, if_false]
  by_cases hv : w.reply true p ev.name = (gi : Int) <;>
    simp only [hv, decide_true, decide_false, if_true, if_false, Bool.false_eq_true]

/-- **a client's release**: the call reaches the wrapped component through the dispatcher exactly
    once and afterwards `Deselect(id)` has run -/
theorem client_release (w : World) (n : Nat) (mv p id : Str) (ev : Event) (ps ps' : List LParam)
    (byVal : List Str) (args : List Val) (sel : Selector)
    (hq : w.queue = [])
    (hcl : w.get ⟨.client mv id, .in_, ev.name⟩ =
      some (.ir (.mcRelease mv ev.name ev.name ps (ps.map (·.name))) ev id mv))
    (harb : w.get ⟨.arb mv, .in_, ev.name⟩ =
      some (.ir (.shell ⟨.enc p, .in_, ev.name⟩ ps' (ps'.map (·.name)) byVal) ev [] []))
    (hc : w.get ⟨.enc p, .in_, ev.name⟩ = some (.scripted .comp p ev))
    (hsel : w.selector mv = some sel)
    (hlen : ps.length = args.length) (hnd : (ps.map (·.name)).Nodup)
    (hlen' : ps'.length = args.length) (hnd' : (ps'.map (·.name)).Nodup) :
    invoke (n + 4) w ⟨.client mv id, .in_, ev.name⟩ args =
      ((afterCall w p ev args).setSelector (sel.deselect id),
       .ok none (writeBack ps args (ps.map (·.name)) (writeBack ps' args (ps'.map (·.name)) (rewritten ev args)))) := by
  have hcall : invoke (n + 3) w ⟨.arb mv, .in_, ev.name⟩ args = (afterCall w p ev args, _) :=
    C01.shell_call n hq harb hc hlen' hnd'
  rw [← invokeR_nil, invokeR_mcRelease hcl]
  simp only [evalArgs_self ps args hlen hnd, invokeR_nil, hcall, afterCall_selector, hsel]

/-- **delivery** (stated for a component that may react, `rx`; `deliver_to_selected` is the case
    without reactions).  The client's handler is the environment's: it has no reactions. -/
theorem deliverR_to_selected {rx : Reactions} {w : World} (n : Nat) {mv p id : Str} {ev : Event}
    {ps : List LParam} {args : List Val} {sel : Selector}
    (henc : w.get ⟨.enc p, .out, ev.name⟩ = some (.ir (.ref ⟨.arb mv, .out, ev.name⟩) ev [] []))
    (harb : w.get ⟨.arb mv, .out, ev.name⟩ = some (.ir (.mcDeliver mv ev.name ps (ps.map (·.name))) ev [] []))
    (hcl : w.get ⟨.client mv id, .out, ev.name⟩ = some (.scripted (.envc id) p ev))
    (hsel : w.selector mv = some sel) (hs : sel.selected = some id)
    (hlen : ps.length = args.length) (hnd : (ps.map (·.name)).Nodup) :
    invokeR rx (n + 3) w ⟨.enc p, .out, ev.name⟩ args =
      ((scriptedRun w (.envc id) p ev args).1, .ok none args) := by
  rw [invokeR_ref henc]
  simp only [resolveSlot, resolveObj, invokeR_mcDeliver harb, hsel, hs, evalArgs_self ps args hlen hnd,
    invokeR_scripted_none hcl rfl]

/-- **delivery**: an out-event the component raises on the multi-client port is observed by the
    selected client — once, with the arguments intact — and by nobody else -/
theorem deliver_to_selected (w : World) (n : Nat) (mv p id : Str) (ev : Event) (ps : List LParam)
    (args : List Val) (sel : Selector)
    (henc : w.get ⟨.enc p, .out, ev.name⟩ = some (.ir (.ref ⟨.arb mv, .out, ev.name⟩) ev [] []))
    (harb : w.get ⟨.arb mv, .out, ev.name⟩ = some (.ir (.mcDeliver mv ev.name ps (ps.map (·.name))) ev [] []))
    (hcl : w.get ⟨.client mv id, .out, ev.name⟩ = some (.scripted (.envc id) p ev))
    (hsel : w.selector mv = some sel) (hs : sel.selected = some id)
    (hlen : ps.length = args.length) (hnd : (ps.map (·.name)).Nodup) :
    invoke (n + 3) w ⟨.enc p, .out, ev.name⟩ args =
      ((scriptedRun w (.envc id) p ev args).1, .ok none args) := by
  rw [← invokeR_nil]
  exact deliverR_to_selected n henc harb hcl hsel hs hlen hnd

/-- … and to nobody when no client is selected -/
theorem deliver_to_nobody (w : World) (n : Nat) (mv p : Str) (ev : Event) (ps : List LParam)
    (args : List Val) (sel : Selector)
    (henc : w.get ⟨.enc p, .out, ev.name⟩ = some (.ir (.ref ⟨.arb mv, .out, ev.name⟩) ev [] []))
    (harb : w.get ⟨.arb mv, .out, ev.name⟩ = some (.ir (.mcDeliver mv ev.name ps (ps.map (·.name))) ev [] []))
    (hsel : w.selector mv = some sel) (hs : sel.selected = none) :
    invoke (n + 2) w ⟨.enc p, .out, ev.name⟩ args = (w, .ok none args) := by
  rw [← invokeR_nil, invokeR_ref henc, invokeR_nil]
  exact deliver_to_selected_only w n mv ev.name ev ps args _ sel harb hsel hs


/-! ### whole histories -/

/-- the wiring of one multi-client port as far as claim and release are concerned (what
    `InitializePort<Port>` and the constructor establish; it only speaks about slots, so calls keep it) -/
structure McWired (w : World) (mv p : Str) (claim release : Event) (psC psA psR psB : List LParam)
    (bvC bvR : List Str) (g : Str) (ids : List Str) : Prop where
  clClaim : ∀ id ∈ ids, w.get ⟨.client mv id, .in_, claim.name⟩ =
    some (.ir (.mcClaim mv claim.name psC (psC.map (·.name)) g) claim id mv)
  arbClaim : w.get ⟨.arb mv, .in_, claim.name⟩ =
    some (.ir (.shell ⟨.enc p, .in_, claim.name⟩ psA (psA.map (·.name)) bvC) claim [] [])
  compClaim : w.get ⟨.enc p, .in_, claim.name⟩ = some (.scripted .comp p claim)
  clRelease : ∀ id ∈ ids, w.get ⟨.client mv id, .in_, release.name⟩ =
    some (.ir (.mcRelease mv release.name release.name psR (psR.map (·.name))) release id mv)
  arbRelease : w.get ⟨.arb mv, .in_, release.name⟩ =
    some (.ir (.shell ⟨.enc p, .in_, release.name⟩ psB (psB.map (·.name)) bvR) release [] [])
  compRelease : w.get ⟨.enc p, .in_, release.name⟩ = some (.scripted .comp p release)
  claimValued : isVoid claim = false
  ndC : (psC.map (·.name)).Nodup
  ndA : (psA.map (·.name)).Nodup
  ndR : (psR.map (·.name)).Nodup
  ndB : (psB.map (·.name)).Nodup
  lenA : psA.length = psC.length
  lenB : psB.length = psR.length

theorem McWired.frame {w w' : World} {mv p claim release psC psA psR psB bvC bvR g ids}
    (h : McWired w mv p claim release psC psA psR psB bvC bvR g ids) (f : Frame w w') :
    McWired w' mv p claim release psC psA psR psB bvC bvR g ids :=
  { h with
    clClaim := fun id hid => frame_get f ▸ h.clClaim id hid
    arbClaim := frame_get f ▸ h.arbClaim
    compClaim := frame_get f ▸ h.compClaim
    clRelease := fun id hid => frame_get f ▸ h.clRelease id hid
    arbRelease := frame_get f ▸ h.arbRelease
    compRelease := frame_get f ▸ h.compRelease }

/-- what the clients do: a claim (the component is scripted to answer it with `reply`) or a release -/
inductive ClientOp
  | claim (id : Str) (reply : Int) (args : List Val)
  | release (id : Str) (args : List Val)

def ClientOp.id : ClientOp → Str
  | .claim id _ _ => id
  | .release id _ => id

/-- the abstract operation a client operation amounts to -/
def ClientOp.abs (gi : Nat) : ClientOp → Op
  | .claim id v _ => .claim id (decide (v = (gi : Int)))
  | .release id _ => .release id

/-- the call passes as many arguments as the event has parameters -/
def ClientOp.argsOk (psC psR : List LParam) : ClientOp → Prop
  | .claim _ _ args => psC.length = args.length
  | .release _ args => psR.length = args.length

def setReply (w : World) (p ev : Str) (v : Int) : World :=
  { w with replies := ((true, p, ev), v) :: w.replies.filter (·.1 ≠ (true, p, ev)) }

theorem setReply_reply (w : World) (p ev : Str) (v : Int) : (setReply w p ev v).reply true p ev = v := by
  simp [setReply, World.reply]

/-- execute one client operation on the shell: through the generated wrapper of that client -/
def runOp (n : Nat) (mv p : Str) (claim release : Event) (w : World) : ClientOp → World
  | .claim id v args => (invoke (n + 4) (setReply w p claim.name v) ⟨.client mv id, .in_, claim.name⟩ args).1
  | .release id args => (invoke (n + 4) w ⟨.client mv id, .in_, release.name⟩ args).1

theorem selector_mv (w : World) (mv : Str) (sel : Selector) (h : w.selector mv = some sel) : sel.mv = mv := by
  unfold World.selector at h
  have := List.find?_some h
  simpa using this

theorem selector_setSelector (w : World) (s : Selector) : (w.setSelector s).selector s.mv = some s := by
  simp [World.setSelector, World.selector]

theorem select_mv (s : Selector) (id : Str) : (s.select id).mv = s.mv := by
  unfold Selector.select; split <;> rfl
theorem deselect_mv (s : Selector) (id : Str) : (s.deselect id).mv = s.mv := by
  unfold Selector.deselect; split <;> rfl

theorem selector_written (w : World) {s : Selector} {mv : Str} (h : s.mv = mv) :
    (w.setSelector s).selector mv = some s := h ▸ selector_setSelector w s

/-- **one operation**: the slots stay as they are, the queue stays empty, and the selector moves
    exactly as the abstract machine `selStep` says -/
theorem runOp_step (n : Nat) (w : World) (mv p : Str) (claim release : Event) (psC psA psR psB : List LParam)
    (bvC bvR : List Str) (g : Str) (ids : List Str) (gi : Nat) (sel : Selector)
    (hw : McWired w mv p claim release psC psA psR psB bvC bvR g ids)
    (hq : w.queue = []) (hgi : w.grantIndex = some gi) (hsel : w.selector mv = some sel)
    (op : ClientOp) (hid : op.id ∈ ids)
    (hargs : op.argsOk psC psR) :
    Frame w (runOp n mv p claim release w op) ∧ (runOp n mv p claim release w op).queue = [] ∧
    (runOp n mv p claim release w op).selector mv = some (selStep sel (op.abs gi)) := by
  have hmv := selector_mv w mv sel hsel
  cases op with
  | claim id v args =>
    -- `setReply` writes the scripted replies only: slots, queue, selector and granting value are those of `w`
    have f0 : Frame w (setReply w p claim.name v) := ⟨rfl, rfl, rfl, rfl⟩
    have hcall := client_claim (setReply w p claim.name v) n mv p id claim psC psA bvC g args sel gi hq
      (hw.clClaim id hid) hw.arbClaim hw.compClaim hsel hw.claimValued hgi hargs hw.ndC
      (hw.lenA.trans hargs) hw.ndA
    refine ⟨f0.trans ((frame_invoke_drain _).1 ..), ?_⟩
    rw [runOp, hcall, setReply_reply, ClientOp.abs]
    by_cases hv : v = (gi : Int)
    · rw [if_pos hv, decide_eq_true hv]
      exact ⟨hq, selector_written _ ((select_mv ..).trans hmv)⟩
    · rw [if_neg hv, decide_eq_false hv]
      exact ⟨hq, hsel⟩
  | release id args =>
    have hcall := client_release w n mv p id release psR psB bvR args sel hq
      (hw.clRelease id hid) hw.arbRelease hw.compRelease hsel hargs hw.ndR (hw.lenB.trans hargs) hw.ndB
    refine ⟨(frame_invoke_drain _).1 .., ?_⟩
    rw [runOp, hcall]
    exact ⟨hq, selector_written _ ((deselect_mv ..).trans hmv)⟩

/-- **every history**: after any sequence of claims and releases by registered clients — executed
    through the generated per-client wrappers — the slots are as the constructor left them, nothing
    is pending, and the selector's state is the abstract machine's state for the same history -/
theorem history_refines (n : Nat) (mv p : Str) (claim release : Event) (psC psA psR psB : List LParam)
    (bvC bvR : List Str) (g : Str) (ids : List Str) (gi : Nat) (ops : List ClientOp) (w : World) (sel : Selector)
    (hw : McWired w mv p claim release psC psA psR psB bvC bvR g ids)
    (hq : w.queue = []) (hgi : w.grantIndex = some gi) (hsel : w.selector mv = some sel)
    (hids : ∀ op ∈ ops, op.id ∈ ids)
    (hargs : ∀ op ∈ ops, op.argsOk psC psR) :
    let w' := ops.foldl (runOp n mv p claim release) w
    Frame w w' ∧ w'.queue = [] ∧
    w'.selector mv = some ((ops.map (ClientOp.abs gi)).foldl selStep sel) := by
  induction ops generalizing w sel with
  | nil => exact ⟨Frame.refl w, hq, hsel⟩
  | cons op r ih =>
    obtain ⟨hid, hids⟩ := List.forall_mem_cons.mp hids
    obtain ⟨harg, hargs⟩ := List.forall_mem_cons.mp hargs
    obtain ⟨f1, q1, s1⟩ := runOp_step n w mv p claim release psC psA psR psB bvC bvR g ids gi sel hw hq hgi hsel op
      hid harg
    obtain ⟨f, q, s⟩ := ih (runOp n mv p claim release w op) (selStep sel (op.abs gi)) (hw.frame f1) q1
      (f1.grantIndex.trans hgi) s1 hids hargs
    exact ⟨f1.trans f, q, s⟩

/-- **C04, executed**: after any such history an out-event raised by the wrapped component is
    observed by the client the abstract machine has selected — once, arguments intact — and by
    nobody when it has selected none.  With `refines_partial`: when nobody releases a claim held by
    somebody else, that client is the holder of the specification. -/
theorem history_delivery (n m : Nat) (mv p : Str) (claim release : Event) (psC psA psR psB : List LParam)
    (bvC bvR : List Str) (g : Str) (ids : List Str) (gi : Nat) (ops : List ClientOp) (w : World) (sel : Selector)
    (hw : McWired w mv p claim release psC psA psR psB bvC bvR g ids)
    (hq : w.queue = []) (hgi : w.grantIndex = some gi) (hsel : w.selector mv = some sel)
    (hids : ∀ op ∈ ops, op.id ∈ ids)
    (hargs : ∀ op ∈ ops, op.argsOk psC psR)
    (ev : Event) (ps : List LParam) (args : List Val)
    (henc : w.get ⟨.enc p, .out, ev.name⟩ = some (.ir (.ref ⟨.arb mv, .out, ev.name⟩) ev [] []))
    (harb : w.get ⟨.arb mv, .out, ev.name⟩ = some (.ir (.mcDeliver mv ev.name ps (ps.map (·.name))) ev [] []))
    (hcl : ∀ id ∈ ids, w.get ⟨.client mv id, .out, ev.name⟩ = some (.scripted (.envc id) p ev))
    (hlen : ps.length = args.length) (hnd : (ps.map (·.name)).Nodup)
    (hreg : ∀ id, ((ops.map (ClientOp.abs gi)).foldl selStep sel).selected = some id → id ∈ ids) :
    let w' := ops.foldl (runOp n mv p claim release) w
    match ((ops.map (ClientOp.abs gi)).foldl selStep sel).selected with
    | some id => invoke (m + 3) w' ⟨.enc p, .out, ev.name⟩ args = ((scriptedRun w' (.envc id) p ev args).1, .ok none args)
    | none => invoke (m + 2) w' ⟨.enc p, .out, ev.name⟩ args = (w', .ok none args) := by
  obtain ⟨f, _, hs⟩ := history_refines n mv p claim release psC psA psR psB bvC bvR g ids gi ops w sel hw hq hgi hsel hids hargs
  have henc' := frame_get f ▸ henc
  have harb' := frame_get f ▸ harb
  cases hsd : ((ops.map (ClientOp.abs gi)).foldl selStep sel).selected with
  | some id =>
    exact deliver_to_selected _ m mv p id ev ps args _ henc' harb' (frame_get f ▸ hcl id (hreg id hsd)) hs hsd hlen hnd
  | none => exact deliver_to_nobody _ m mv p ev ps args _ henc' harb' hs hsd

theorem clientsOf_abs (gi : Nat) (ops : List ClientOp) : clientsOf (ops.map (ClientOp.abs gi)) = ops.map ClientOp.id := by
  induction ops with
  | nil => rfl
  | cons op r ih => cases op <;> simp [ClientOp.abs, clientsOf, ClientOp.id, ih]

/-- **the holder of the specification** (partial: histories without a release by a non-holder,
    finding D-9): after any such history executed through the generated wrappers, the shell's
    selected client is the client whose most recent claim was answered with the granting reply and
    who has not released since -/
theorem history_holder (n : Nat) (mv p : Str) (claim release : Event) (psC psA psR psB : List LParam)
    (bvC bvR : List Str) (g : Str) (ids : List Str) (gi : Nat) (ops : List ClientOp) (w : World) (sel : Selector)
    (hw : McWired w mv p claim release psC psA psR psB bvC bvR g ids)
    (hq : w.queue = []) (hgi : w.grantIndex = some gi) (hsel : w.selector mv = some sel)
    (hids : ∀ op ∈ ops, op.id ∈ ids) (hargs : ∀ op ∈ ops, op.argsOk psC psR)
    (hreg : ∀ op ∈ ops, op.id ∈ sel.clients)
    (hnf : NoForeignRelease sel.selected (ops.map (ClientOp.abs gi))) :
    ∃ s', (ops.foldl (runOp n mv p claim release) w).selector mv = some s' ∧
      s'.selected = (ops.map (ClientOp.abs gi)).foldl specStep sel.selected := by
  obtain ⟨_, _, hs⟩ := history_refines n mv p claim release psC psA psR psB bvC bvR g ids gi ops w sel hw hq hgi hsel hids hargs
  refine ⟨_, hs, ?_⟩
  exact (refines_partial sel (ops.map (ClientOp.abs gi))
    (by rw [clientsOf_abs]; intro c hc; obtain ⟨op, hop, rfl⟩ := List.mem_map.mp hc; exact hreg op hop) hnf).1

end C04
