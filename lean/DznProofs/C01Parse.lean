/-
  C01 (read-back) — the text of an event slot, as `Shell.Slot.str` renders it, is recognised by the IR parser
  (`IrParse.parseSlot`) as that slot; so two different well-formed slots never print alike.
-/
import DznModel.IrParse
import DznProofs.Lemmas.Scoping
open Scoping Shell IrParse

namespace C01

theorem isIdent_not_mem {s : Str} (h : isIdent s = true) {c : Char} (hc : isIdentChar c = false) : c ∉ s := by
  intro hm
  rw [isIdent, Bool.and_eq_true, List.all_eq_true] at h
  rw [h.2 c hm] at hc
  cases hc

/-- an identifier other than `port`, which in a slot's object position is read as the local port object -/
def plainName (s : Str) : Prop := isIdent s = true ∧ s ≠ L "port"

def WfObj : PortObj → Prop
  | .enc p => isIdent p = true
  | .bnd mv => plainName mv
  | .arb mv => isIdent mv = true
  | .local_ => True

def WfSlot (s : Slot) : Prop := WfObj s.obj ∧ isIdent s.ev = true

theorem ident_not_suffix_parens (x : Str) (h : isIdent x = true) : dropSuffix? (L "()") x = none := by
  unfold dropSuffix?
  cases hx : x.reverse with
  | nil => rfl
  | cons c cs =>
    have hc : c ∈ x := List.mem_reverse.mp (hx ▸ List.mem_cons_self)
    have : ')' ≠ c := fun e => isIdent_not_mem h (c := ')') (by decide) (e ▸ hc)
    simp [dropPrefix?, this]

theorem dropSuffix_append (p x : Str) : dropSuffix? p (x ++ p) = some x := by
  have pre : ∀ a b : Str, dropPrefix? a (a ++ b) = some b := fun a b => by
    induction a with
    | nil => rfl
    | cons c cs ih => simp [dropPrefix?, ih]
  rw [dropSuffix?, List.reverse_append, pre]
  simp

theorem parseObj_str (o : PortObj) (h : WfObj o) : parseObj (splitChar '.' o.str []) = some o := by
  cases o with
  | enc p =>
    have hp : isIdent p = true := h
    show parseObj (splitChar '.' (L "m_encapsulee" ++ '.' :: p) []) = _
    rw [Lem.splitChar_append_sep, Lem.splitChar_no_sep [] (by decide +kernel),
      Lem.splitChar_no_sep [] (isIdent_not_mem hp (by decide))]
    simp [parseObj, hp]
  | bnd mv =>
    rw [show (PortObj.bnd mv).str = mv from rfl, Lem.splitChar_no_sep [] (isIdent_not_mem h.1 (by decide))]
    simp [parseObj, h.1, h.2, ident_not_suffix_parens mv h.1]
  | arb mv =>
    have hmv : isIdent mv = true := h
    have hd : '.' ∉ mv ++ L "()" := fun hm =>
      (List.mem_append.mp hm).elim (isIdent_not_mem hmv (by decide)) (by decide)
    have hne : mv ++ L "()" ≠ L "port" := fun e => by simpa using congrArg List.reverse e
    rw [show (PortObj.arb mv).str = mv ++ L "()" from rfl, Lem.splitChar_no_sep [] hd]
    simp [parseObj, hne, dropSuffix_append, hmv]
  | local_ => decide +kernel

/-- **a rendered slot reads back as itself** -/
theorem parseSlot_str (s : Slot) (h : WfSlot s) : parseSlot s.str = some s := by
  obtain ⟨obj, dir, ev⟩ := s
  obtain ⟨ho, he⟩ := h
  have hd : '.' ∉ dir.str := by cases dir <;> decide
  have hs : splitChar '.' (Slot.str ⟨obj, dir, ev⟩) [] = splitChar '.' obj.str [] ++ [dir.str] ++ [ev] := by
    show splitChar '.' (obj.str ++ L "." ++ dir.str ++ L "." ++ ev) [] = _
    rw [List.append_assoc, List.append_assoc, List.append_assoc, List.singleton_append, Lem.splitChar_append_sep,
      List.singleton_append, Lem.splitChar_append_sep, Lem.splitChar_no_sep [] hd,
      Lem.splitChar_no_sep [] (isIdent_not_mem he (by decide)), List.append_assoc]
    rfl
  unfold parseSlot
  rw [hs, List.reverse_append, List.reverse_append]
  simp only [List.reverse_cons, List.reverse_nil, List.nil_append, List.cons_append, List.reverse_reverse,
    parseObj_str obj ho, he]
  cases dir <;> rfl

/-- hence rendering is injective on well-formed slots: two different slots never print alike -/
theorem slot_str_injective (s t : Slot) (hs : WfSlot s) (ht : WfSlot t) (h : s.str = t.str) : s = t := by
  have h1 := parseSlot_str s hs
  have h2 := parseSlot_str t ht
  rw [h] at h1
  rw [h1] at h2
  exact Option.some.inj h2

end C01
