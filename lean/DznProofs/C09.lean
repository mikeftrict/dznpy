/-
  C09 — Facility ownership follows the configured origin.

  The semantics (`Sem.construct`) reads what the constructor does about the facilities from the
  member-initialiser list of the wiring IR (`Sem.milFacts`); the generator side
  (`createConstructor_mil`) says which initialisers `create_constructor` emits for each origin; the
  two meet in the `build_*` theorems: for every model and configuration `Builder.build` accepts.
-/
import DznModel.Sem
import DznProofs.Lemmas.Build
import DznProofs.Lemmas.Wiring
open Py Scoping Ast Shell Sem CppGen Lem

namespace C09

/-! ### what the generated member-initialiser list is -/

def milCreate : List Str :=
  [L "m_locator(std::move(FacilitiesCheck(prototypeLocator).clone().set(m_runtime).set(m_dispatcher)))",
   L "m_encapsulee(m_locator)"]
def milImport : List Str :=
  [L "m_dispatcher(FacilitiesCheck(locator).get<dzn::pump>())", L "m_encapsulee(locator)"]

def mvName (p : CppPortItf) : Str := (p.memberVar.map (·.name)).getD []

/-- the initialiser of a multi-threaded provides port -/
def provInit (p : CppPortItf) : Str :=
  if p.isMc then
    mvName p ++ L "(multiclientLog, \"" ++ p.name ++ L "\", [this](const auto& identifier) { return InitializePort" ++
      p.capName ++ L "(identifier); })"
  else mvName p ++ L "(m_encapsulee." ++ p.name ++ L ")"

/-- the initialiser of a multi-threaded requires port -/
def reqInit (p : CppPortItf) : Str := mvName p ++ L "(m_encapsulee." ++ p.name ++ L ")"

def facMil : Origin → List Str | .create => milCreate | .import_ => milImport

/-- the initialisers `create_constructor` emits: the facility part fixed by the origin, then one
    initialiser per multi-threaded port -/
theorem createConstructor_mil (fc : FC) (sn : Str) (fac : Facilities) (pp rp : List CppPortItf) (sfns : Ids)
    (ctor : Constructor) (assigns : List Assign)
    (h : createConstructor fc sn fac pp rp sfns = .ok (ctor, assigns)) :
    ctor.mil = facMil fac.origin ++ (mtsPorts pp).map provInit ++ (mtsPorts rp).map reqInit := by
  unfold createConstructor at h
  obtain ⟨_, _, h⟩ := bind_ok h
  obtain ⟨_, _, h⟩ := bind_ok h
  obtain ⟨_, _, h⟩ := bind_ok h
  obtain ⟨_, _, h⟩ := bind_ok h
  rw [← congrArg (fun r => r.1.mil) (pure_ok h)]
  cases fac.origin <;> rfl


/-! ### what the semantics reads from that list -/

/-- starts like a port initialiser (`m_p…`, `m_r…`) or like the initialiser of a port without
    boundary member (`(`): none of the four facility initialisers does -/
def portLike : Str → Bool
  | 'm' :: '_' :: 'p' :: _ => true
  | 'm' :: '_' :: 'r' :: _ => true
  | '(' :: _ => true
  | _ => false

theorem portLike_append {s t : Str} (h : portLike s = true) : portLike (s ++ t) = true := by
  unfold portLike at h
  split at h
  · rfl
  · rfl
  · rfl
  · cases h

/-- the boundary member of a port is absent or named like one (what `create_cpp_portitf` produces) -/
def MvShape (p : CppPortItf) : Prop := mvName p = [] ∨ portLike (mvName p) = true

theorem MvShape.paren {p : CppPortItf} {t : Str} (h : MvShape p) : portLike (mvName p ++ '(' :: t) = true := by
  rcases h with h | h
  · rw [h]; rfl
  · exact portLike_append h

theorem reqInit_portLike {p : CppPortItf} (h : MvShape p) : portLike (reqInit p) = true :=
  portLike_append (portLike_append h.paren)

theorem provInit_portLike {p : CppPortItf} (h : MvShape p) : portLike (provInit p) = true :=
  iteInduction (motive := fun s => portLike s = true)
    (fun _ => portLike_append (portLike_append (portLike_append (portLike_append h.paren))))
    (fun _ => reqInit_portLike h)

theorem any_eq_append {l rest : List Str} {x : Str} (hx : portLike x = false) (hr : ∀ m ∈ rest, portLike m = true) :
    (l ++ rest).any (fun m => decide (m = x)) = l.any (fun m => decide (m = x)) := by
  have : rest.any (fun m => decide (m = x)) = false := by
    refine List.any_eq_false.mpr fun m hm e => ?_
    have := hr m hm
    rw [of_decide_eq_true e, hx] at this
    cases this
  rw [List.any_append, this, Bool.or_false]

def factsCreate : MilFacts := { checks := true, cloneSet := true, encOwn := true, encProto := false, dispFromLocator := false }
def factsImport : MilFacts := { checks := true, cloneSet := false, encOwn := false, encProto := true, dispFromLocator := true }

theorem facMil_checks (o : Origin) : (facMil o).any (fun m => containsSub (L "FacilitiesCheck(") m) = true := by
  cases o <;> decide +kernel

theorem milFacts_of_mil (ir : ShellIR) (o : Origin) (rest : List Str) (hm : ir.mil = facMil o ++ rest)
    (hr : ∀ m ∈ rest, portLike m = true) :
    milFacts ir = (if o = .create then factsCreate else factsImport) := by
  unfold milFacts
  rw [hm]
  dsimp only
  -- none of the four facility initialisers the semantics looks for can be among the port initialisers
  rw [any_eq_append (by decide) hr, any_eq_append (by decide) hr, any_eq_append (by decide) hr,
    any_eq_append (by decide) hr, List.any_append, facMil_checks, Bool.true_or]
  -- what is left is the table: which of the four is in the facility part of which origin
  cases o <;> decide +kernel


/-! ### the constructed shell, for any wiring IR with such a list -/

theorem construct_fac {ir : ShellIR} {ap gi pump runtime skip name extra} {w : World}
    (h : construct ir ap gi pump runtime skip name extra = .ok w) : w.fac = facInfo ir pump runtime extra := by
  obtain ⟨_, rfl⟩ := construct_fields h
  rfl

/-- **create**: construction succeeds iff the user's prototype locator carries neither a dispatcher
    nor a runtime -/
theorem create_succeeds_iff_no_facilities (ir : ShellIR) (ap gi) (pump runtime : Bool) (skip name extra)
    (ho : ir.origin = .create) (hf : milFacts ir = factsCreate) :
    (∃ w, construct ir ap gi pump runtime skip name extra = .ok w) ↔ (pump = false ∧ runtime = false) := by
  rw [construct_isOk, ctorCheck, ho, hf]
  cases pump <;> cases runtime <;> simp [facilitiesCheck, factsCreate]

/-- **import**: construction succeeds iff the user's locator carries both -/
theorem import_succeeds_iff_both_facilities (ir : ShellIR) (ap gi) (pump runtime : Bool) (skip name extra)
    (ho : ir.origin = .import_) (hf : milFacts ir = factsImport) :
    (∃ w, construct ir ap gi pump runtime skip name extra = .ok w) ↔ (pump = true ∧ runtime = true) := by
  rw [construct_isOk, ctorCheck, ho, hf]
  cases pump <;> cases runtime <;> simp [facilitiesCheck, factsImport]

/-- with `create`, the component gets a locator that is *not* the user's object and holds the
    shell's own dispatcher and runtime plus everything of the prototype, which is left unmodified;
    the shell posts to its own dispatcher and offers the locator accessor -/
theorem create_owns_fresh_facilities (ir : ShellIR) (ap gi skip name) (pump runtime extra : Bool) (w : World)
    (ho : ir.origin = .create) (hf : milFacts ir = factsCreate)
    (h : construct ir ap gi pump runtime skip name extra = .ok w) :
    w.fac.compLocatorIsProto = false ∧ w.fac.compPump = .own ∧ w.fac.compRuntime = .own ∧
    w.fac.compExtra = extra ∧ w.fac.dispatcher = .own ∧ w.fac.hasLocatorAccessor = true ∧
    w.fac.protoKeysAfter = w.fac.protoKeysBefore := by
  rw [construct_fac h]
  simp [facInfo, hf, factsCreate, ho]

/-- with `import`, the shell uses the very dispatcher found in the user's locator, hands that
    locator itself to the component and offers no locator accessor -/
theorem import_uses_user_facilities (ir : ShellIR) (ap gi skip name) (extra : Bool) (w : World)
    (ho : ir.origin = .import_) (hf : milFacts ir = factsImport)
    (h : construct ir ap gi true true skip name extra = .ok w) :
    w.fac.compLocatorIsProto = true ∧ w.fac.compPump = .proto ∧ w.fac.compRuntime = .proto ∧
    w.fac.dispatcher = .proto ∧ w.fac.hasLocatorAccessor = false ∧
    w.fac.protoKeysAfter = w.fac.protoKeysBefore := by
  rw [construct_fac h]
  simp [facInfo, hf, factsImport, ho]

/-- a failing check fails the construction before the component exists (no world at all) -/
theorem failure_before_component (ir : ShellIR) (ap gi pump runtime skip name extra) (e : Exc)
    (h : ctorCheck ir pump runtime = some e) :
    construct ir ap gi pump runtime skip name extra = .error e :=
  construct_error h

/-- **a constructor that never calls `FacilitiesCheck` never fails** — whatever the locator holds:
    the check has to be in the member-initialiser list (this is what a generator that drops the
    initialiser breaks) -/
theorem no_check_no_failure (ir : ShellIR) (ap gi pump runtime skip name extra)
    (h : (milFacts ir).checks = false) : ∃ w, construct ir ap gi pump runtime skip name extra = .ok w :=
  construct_isOk.mpr (by rw [ctorCheck, h]; rfl)

/-- generator side: the `Locator()` accessor, the own runtime member and the `dzn/runtime.hh`
    include exist exactly for `create`; the dispatcher member is a reference exactly for `import` -/
theorem locator_accessor_iff_create (o : Origin) (s : Str) :
    ((createFacilities o s).locatorAccessor.isSome ↔ o = .create) ∧
    ((createFacilities o s).runtime.isSome ↔ o = .create) ∧
    ((createFacilities o s).dispatcher.ty.pfix = .ref ↔ o = .import_) := by
  cases o <;> simp [createFacilities]

/-! ### at the level of `Builder.build` -/

theorem createCppPortItf_mv {d : DznPortItf} {sn : Str} {sfns : Ids} {p : CppPortItf}
    (h : createCppPortItf d sn sfns = .ok p) : MvShape p := by
  unfold MvShape mvName
  rcases (createCppPortItf_ok h).2 with ⟨h, _⟩ | ⟨cap, ht, h⟩
  · rw [h]; exact .inl rfl
  · rw [h]; rcases ht with ht | ht <;> rw [ht] <;> exact .inr rfl

theorem createFacilities_origin (o : Origin) (s : Str) : (createFacilities o s).origin = o := by
  cases o <;> rfl

/-- the member-initialiser list of the shell `Builder.build` generates, and what the semantics reads from it -/
theorem build_milFacts (fc : FC) (cfg : Config) (b : BuildResult) (h : build fc cfg = .ok b) :
    b.ir.origin = cfg.origin ∧
    milFacts b.ir = (if cfg.origin = .create then factsCreate else factsImport) := by
  obtain ⟨s, ⟨B⟩, rfl⟩ := build_ok h
  have hmil := createConstructor_mil fc _ _ _ _ _ B.ctor _ B.ctorOk
  rw [createFacilities_origin, List.append_assoc, ← B.mil] at hmil
  refine ⟨B.origin, milFacts_of_mil _ cfg.origin _ hmil fun m hm => ?_⟩
  rcases List.mem_append.mp hm with hm | hm <;> obtain ⟨p, hp, rfl⟩ := List.mem_map.mp hm
  · obtain ⟨d, _, hcp⟩ := B.port_created (List.mem_append_left _ (mem_mtsPorts.mp hp).1)
    exact provInit_portLike (createCppPortItf_mv hcp)
  · obtain ⟨d, _, hcp⟩ := B.port_created (List.mem_append_right _ (mem_mtsPorts.mp hp).1)
    exact reqInit_portLike (createCppPortItf_mv hcp)

/-- **C09 at the level of `Builder.build`, create**: for every model and configuration the builder
    accepts with `facilities_origin = CREATE`, constructing the shell succeeds iff the user's
    prototype locator carries neither dispatcher nor runtime; then the component's locator is the
    shell's own (not the user's object) and holds the shell's own dispatcher and runtime plus the
    user's other entries, the prototype is unmodified, the shell posts to its own dispatcher and
    offers `Locator()` -/
theorem build_create (fc : FC) (cfg : Config) (b : BuildResult) (h : build fc cfg = .ok b) (ho : cfg.origin = .create)
    (pump runtime extra : Bool) (name : Str) :
    ((∃ w, construct b.ir b.allPorts b.grantIndex pump runtime none name extra = .ok w) ↔ (pump = false ∧ runtime = false)) ∧
    (∀ w, construct b.ir b.allPorts b.grantIndex pump runtime none name extra = .ok w →
      w.fac.compLocatorIsProto = false ∧ w.fac.compPump = .own ∧ w.fac.compRuntime = .own ∧
      w.fac.compExtra = extra ∧ w.fac.dispatcher = .own ∧ w.fac.hasLocatorAccessor = true ∧
      w.fac.protoKeysAfter = w.fac.protoKeysBefore) := by
  obtain ⟨h1, h2⟩ := build_milFacts fc cfg b h
  rw [ho] at h1
  rw [ho, if_pos rfl] at h2
  exact ⟨create_succeeds_iff_no_facilities b.ir _ _ pump runtime none name extra h1 h2,
    fun w hw => create_owns_fresh_facilities b.ir _ _ none name pump runtime extra w h1 h2 hw⟩

/-- **C09 at the level of `Builder.build`, import**: construction succeeds iff the user's locator
    carries both dispatcher and runtime; then the shell uses that very dispatcher, hands the user's
    locator object itself to the component and offers no locator accessor -/
theorem build_import (fc : FC) (cfg : Config) (b : BuildResult) (h : build fc cfg = .ok b) (ho : cfg.origin = .import_)
    (pump runtime extra : Bool) (name : Str) :
    ((∃ w, construct b.ir b.allPorts b.grantIndex pump runtime none name extra = .ok w) ↔ (pump = true ∧ runtime = true)) ∧
    (∀ w, construct b.ir b.allPorts b.grantIndex true true none name extra = .ok w →
      w.fac.compLocatorIsProto = true ∧ w.fac.compPump = .proto ∧ w.fac.compRuntime = .proto ∧
      w.fac.dispatcher = .proto ∧ w.fac.hasLocatorAccessor = false ∧
      w.fac.protoKeysAfter = w.fac.protoKeysBefore) := by
  obtain ⟨h1, h2⟩ := build_milFacts fc cfg b h
  rw [ho] at h1
  rw [ho, if_neg nofun] at h2
  exact ⟨import_succeeds_iff_both_facilities b.ir _ _ pump runtime none name extra h1 h2,
    fun w hw => import_uses_user_facilities b.ir _ _ none name extra w h1 h2 hw⟩

end C09
