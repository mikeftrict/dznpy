/-
  C05 at the level of the JSON document: an element whose `<class>` is none of the classes the parser
  knows — whatever else the element contains — and any non-dict element is skipped; the result is that of
  the document without it (checked on the implementation by the stream `unknown-with-payload`).
-/
import DznModel.Parser
import DznProofs.Lemmas.Parser
open Scoping Ast JVal Parser Lem

namespace C05

/-- the class tag is none of the ten classes `parse_element` dispatches on -/
def unknownClass (cls : JVal) : Prop :=
  cls.eqStr (L "namespace") = false ∧ cls.eqStr (L "component") = false ∧ cls.eqStr (L "enum") = false ∧
  cls.eqStr (L "extern") = false ∧ cls.eqStr (L "foreign") = false ∧ cls.eqStr (L "file-name") = false ∧
  cls.eqStr (L "import") = false ∧ cls.eqStr (L "interface") = false ∧ cls.eqStr (L "system") = false ∧
  cls.eqStr (L "subint") = false

/-- an object of an unknown class contributes nothing and raises nothing — whatever its other fields hold -/
theorem unknown_object_skipped (kvs : Obj) (cls : JVal) (ns : NsTree) (fc : FC)
    (hc : lookup (L "<class>") kvs = some cls) (hu : unknownClass cls) :
    parseElement (.obj kvs) ns fc = (fc, none) := by
  obtain ⟨h0, h1, h2, h3, h4, h5, h6, h7, h8, h9⟩ := hu
  rw [parseElement_simple ns fc hc h0]
  simp only [parseSimple, h1, h2, h3, h4, h5, h6, h7, h8, h9, Bool.false_eq_true, if_false]

/-- a non-dict element is skipped -/
theorem nondict_skipped (j : JVal) (ns : NsTree) (fc : FC) (h : ∀ kvs, j ≠ .obj kvs) :
    parseElement j ns fc = (fc, none) :=
  parseElement_nonobj ns fc h

/-- **siblings are unaffected**: a skipped element anywhere in an element list leaves the result of the list
    what it is without that element -/
theorem skipped_element_irrelevant (x : JVal) (hx : ∀ ns fc, parseElement x ns fc = (fc, none))
    (a b : List JVal) (ns : NsTree) (fc : FC) :
    parseElements (a ++ [x] ++ b) ns fc = parseElements (a ++ b) ns fc := by
  induction a generalizing fc with
  | nil =>
    simp only [List.nil_append, List.singleton_append]
    rw [parseElements]
    simp only [hx]
  | cons y r ih =>
    simp only [List.cons_append]
    rw [parseElements, parseElements]
    cases hy : parseElement y ns fc with
    | mk fc' e =>
      cases e with
      | none => exact ih fc'
      | some err => rfl

end C05
