/-
  C11 (holder clause) — with the *specified* Deselect (only the holder's own selection is cleared)
  every out-event raised while exactly one client holds the claim is delivered to that client, for
  every number of client threads and every schedule.  (The code as it is violates this: finding
  D-9c, `C11.holder_witness`.)
-/
import DznProofs.Lemmas.Conc
open Conc

namespace C11

/-- the phases in which the arbiter component regards the client as the owner of the resource -/
def ownerPhase (p : Pc) : Bool :=
  p = .granted || p = .selLocked || p = .selWritten || p = .holding || p = .waitRelease

/-- the phases in which the client's own Select has completed its write -/
def selectedPhase (p : Pc) : Bool := p = .selWritten || p = .holding || p = .waitRelease

structure HInv (s : State) : Prop where
  unique : ∀ c d, ownerPhase (s.pcs c) = true → ownerPhase (s.pcs d) = true → c = d
  free : s.busy = false → ∀ c, ownerPhase (s.pcs c) = false
  sel : ∀ c, selectedPhase (s.pcs c) = true → s.selected = some c
  ok : deliveriesOk s = true

theorem hinv_init (n outs : Nat) : HInv (init n outs) where
  unique := nofun
  free _ _ := rfl
  sel := nofun
  ok := rfl

theorem sel_owner {p : Pc} (h : selectedPhase p = true) : ownerPhase p = true := by
  cases p <;> revert h <;> decide

theorem HInv.sole {s : State} {c d : Client} (h : HInv s) (hc : ownerPhase (s.pcs c) = true) (hdc : d ≠ c) :
    ownerPhase (s.pcs d) = false :=
  Bool.eq_false_iff.mpr fun hd => hdc (h.unique d c hd hc)

theorem HInv.frameOwner {s t : State} (h : HInv s)
    (ho : ∀ d, ownerPhase (t.pcs d) = ownerPhase (s.pcs d)) (hb : t.busy = s.busy)
    (hs : ∀ d, selectedPhase (t.pcs d) = true → t.selected = some d) (hd : deliveriesOk t = true) : HInv t where
  unique c d hc hd := h.unique c d (ho c ▸ hc) (ho d ▸ hd)
  free hf c := by rw [ho]; exact h.free (hb ▸ hf) c
  sel := hs
  ok := hd

theorem HInv.frame {s t : State} (h : HInv s)
    (ho : ∀ d, ownerPhase (t.pcs d) = ownerPhase (s.pcs d))
    (hp : ∀ d, selectedPhase (t.pcs d) = selectedPhase (s.pcs d))
    (hb : t.busy = s.busy) (hs : t.selected = s.selected) (hd : t.deliveries = s.deliveries) : HInv t :=
  h.frameOwner ho hb (fun d hd => by rw [hs]; exact h.sel d (hp d ▸ hd)) (by rw [deliveriesOk, hd]; exact h.ok)

theorem hinv_transition {s t : State} {a : Action} (h : HInv s) (ht : Transition false s a t) :
    HInv t := by
  cases ht with
  | postClaim _ hp | postRelease _ hp | claimDenied _ _ hp | selLock _ hp | selUnlock _ hp | deselLock _ hp
  | deselUnlock _ hp =>
    -- the client moves between two phases that are alike to the arbiter and to the selection
    exact h.frame (setPc_invisible ownerPhase hp rfl) (setPc_invisible selectedPhase hp rfl) rfl rfl rfl
  | raiseOut | claimStale | releaseStale | outLock | outUnlock =>
    exact h.frame (fun _ => rfl) (fun _ => rfl) rfl rfl rfl
  | @claimGranted c _ _ _ _ hb =>
    -- nobody owned the resource, so `c` is the only owner now
    have owner_eq x (hx : ownerPhase ((setPc s c .granted).pcs x) = true) : x = c :=
      Decidable.by_contra fun hxc => by rw [pcs_setPc, if_neg hxc, h.free hb x] at hx; cases hx
    exact {
      unique := fun x y hx hy => (owner_eq x hx).trans (owner_eq y hy).symm
      free := nofun
      sel := fun x hx => by cases owner_eq x (sel_owner hx); simp [selectedPhase] at hx
      ok := h.ok }
  | @releaseDone c _ _ _ hw =>
    -- `c` was the owner, so nobody is now
    have no_owner x : ownerPhase ((setPc s c .released).pcs x) = false := by
      rw [pcs_setPc]
      by_cases hxc : x = c
      · rw [if_pos hxc]; rfl
      · rw [if_neg hxc]; exact h.sole (by rw [hw]; rfl) hxc
    exact {
      unique := fun x y hx => by rw [no_owner x] at hx; cases hx
      free := fun _ => no_owner
      sel := fun x hx => by have := sel_owner hx; rw [no_owner x] at this; cases this
      ok := h.ok }
  | outDeliver =>
    -- a single holder is in a selected phase, so the selection read under the lock is that holder
    have single x (hx : holders s = [x]) : s.selected = some x :=
      h.sel x (by rw [(mem_holders.mp (hx ▸ List.mem_singleton_self x)).2]; rfl)
    refine h.frameOwner (fun _ => rfl) rfl h.sel ?_
    show ((match holders s with | [x] => decide (s.selected = some x) | _ => true) && deliveriesOk s) = true
    rw [h.ok, Bool.and_true]
    cases hh : holders s with
    | nil => rfl
    | cons x r =>
      cases r with
      | nil => exact decide_eq_true (single x hh)
      | cons _ _ => rfl
  | @selWrite c _ hp =>
    -- `c` is an owner, and so is whoever is in a selected phase: it is `c`
    have ho := setPc_invisible ownerPhase (q := .selWritten) hp rfl
    exact h.frameOwner ho rfl
      (fun x hx => congrArg some (h.unique c x (by rw [hp]; rfl) (ho x ▸ sel_owner hx))) h.ok
  | @deselWrite c _ hp =>
    -- whoever is in a selected phase is not `c`, and its selection is left alone
    refine h.frameOwner (setPc_invisible ownerPhase hp rfl) rfl (fun x hx => ?_) h.ok
    rw [pcs_setPc] at hx
    by_cases hxc : x = c
    · rw [if_pos hxc] at hx; cases hx
    · rw [if_neg hxc] at hx
      simp [h.sel x hx, hxc]

/-- **the holder clause is inductive for the specified Deselect** -/
theorem hinv_step (s : State) (a : Action) (h : HInv s) (he : enabled s a = true) :
    HInv (step false s a) :=
  hinv_transition h (step_transition false he)

/-- **C11 (holder clause, for the specified Deselect)**: for every number of client threads, every
    number of out-events and *every* schedule, each out-event raised while exactly one client holds
    the claim was delivered to that client -/
theorem holder_specified (n outs : Nat) (acts : List Action) :
    deliveriesOk (run false (init n outs) acts) = true :=
  (run_induction hinv_step acts (hinv_init n outs)).ok

/-- `HInv` is satisfiable: it holds of every initial state -/
example : HInv (init 3 2) := hinv_init 3 2

end C11
