/-
  C18 — Indentation shifts text without changing it.
  Model: DznModel.Text (Indentizer, TB.indent); specification: DznModel.SpecText (C18 section).
-/
import DznModel.SpecText
open Py Text

namespace C18

theorem ljust_glyph (g : Str) (n : Nat) : ljust (g ++ [' ']) n = g ++ spaces (max 1 (n - g.length)) := by
  -- `max 1 d = d - 1 + 1`, and the `1` is the blank after the glyph
  rw [Nat.max_comm, ← Nat.sub_add_eq_max, Nat.sub_sub, ljust, List.append_assoc, List.length_append]
  rfl

theorem ljust_length (s : Str) (w : Nat) : (ljust s w).length = max w s.length := by
  rw [ljust, List.length_append, spaces, List.length_replicate, Nat.add_comm, Nat.sub_add_eq_max]

theorem bulletized_eq {i : Indentizer} {m : BulletMode} {g : Str} (h : i.bullet = some (m, g)) :
    i.bulletized = Spec.bulletPrefix i g := by
  unfold Indentizer.bulletized Spec.bulletPrefix
  rw [h]
  cases i.indentor with
  | tab => rfl
  | spaces n => exact ljust_glyph g n

/-- `|bullet| = max spaces (|glyph|+1)` -/
theorem bullet_width (n : Nat) (m : BulletMode) (g : Str) :
    (Indentizer.bulletized { indentor := .spaces n, bullet := some (m, g) }).length
      = max n (g.length + 1) := by
  show (ljust (g ++ [' ']) n).length = _
  rw [ljust_length, List.length_append]
  rfl

theorem whitespace_eq (i : Indentizer) : i.whitespace = Spec.plainPrefix i := by
  obtain ⟨ind, b⟩ := i
  cases ind with
  | tab => rfl
  | spaces n =>
    cases b with
    | none => rfl
    | some p => exact congrArg spaces (bullet_width n p.1 p.2)

theorem onlyIndent_eq (i : Indentizer) (l : Str) : i.onlyIndent l = Spec.plainLine i l := by
  simp [Indentizer.onlyIndent, Spec.plainLine, whitespace_eq]

/-- **C18 (main)**: for every indenter configuration and every line sequence the output of one
    indentation step satisfies every clause of the specification (no clause fails). -/
theorem step_spec (i : Indentizer) (ls : List Str) :
    Spec.holdsC18_step i ls (i.toListFlat ls) = [] := by
  unfold Spec.holdsC18_step Indentizer.toListFlat
  cases hb : i.bullet with
  | none => simp [onlyIndent_eq]
  | some p =>
    obtain ⟨m, g⟩ := p
    cases m with
    | all => simp [Spec.bulletLine, bulletized_eq hb]
    | firstOnly =>
      cases ls with
      | nil => simp
      | cons a as => simp [Spec.bulletLine, bulletized_eq hb, onlyIndent_eq]

/-- number (and order) of lines preserved: the first clause of `step_spec` -/
theorem length_preserved (i : Indentizer) (ls : List Str) :
    (i.toListFlat ls).length = ls.length :=
  Decidable.of_not_not fun h => by
    have := (List.append_eq_nil_iff.mp (step_spec i ls)).1
    rw [if_neg h] at this
    cases this

/-- plain mode: every line is either blank and becomes empty, or is prefixed with exactly the
    configured whitespace — its text unchanged -/
theorem plain_text_preserved (i : Indentizer) (hb : i.bullet = none) (ls : List Str) (k : Nat)
    (hk : k < ls.length) :
    ((i.toListFlat ls)[k]'(by rw [length_preserved]; exact hk)) =
      if isBlank ls[k] then [] else Spec.plainPrefix i ++ ls[k] := by
  simp [Indentizer.toListFlat, hb, onlyIndent_eq, Spec.plainLine]

/-- blank lines stay empty: indentation never introduces trailing whitespace on a blank line
    (plain mode and continuation lines) -/
theorem no_trailing_ws_introduced (i : Indentizer) (l : Str) (h : isBlank l = true) :
    i.onlyIndent l = [] := by
  simp [Indentizer.onlyIndent, h]

/-- a header is never indented -/
theorem header_untouched (t : TB) (i : Option Indentizer) : (t.indent i).header = t.header := rfl

/-- repeated indentation is composition of the single steps -/
theorem repeated_is_composition (t : TB) (i j : Indentizer) :
    ((t.indent (some i)).indent (some j)).lines = j.toListFlat (i.toListFlat t.lines) := rfl

/-- the list form and the string form of the indenter agree -/
theorem to_str_agrees (i : Indentizer) (c : Content) :
    i.toStr c = .ok (join ['\n'] (i.toList c) ++ ['\n']) := rfl

/-- non-vacuity: a concrete first-line-only configuration with a glyph wider than the indent -/
example : (Indentizer.toListFlat { indentor := .spaces 2, bullet := some (.firstOnly, L ">>>") }
    [L "a", L "b", L ""]) = [L ">>> a", L "    b", L ""] := by decide +kernel

end C18
