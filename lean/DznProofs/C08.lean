/-
  C08 — Output is a pure function of model and configuration. (property theorems)
  A Python `set` is modelled as a duplicate-free list *in whatever order the interpreter iterates
  it* (hash seed, construction order, process): the theorems quantify over every permutation of
  every name set of the configuration and over every iteration order of the model's port-name sets.
  (`build` being a Lean function settles "same inputs, same process-independent outputs" for the
  model; what has to be proved is that nothing observable depends on the orders.)
-/
import DznModel.ShellBuild
import DznProofs.C03
open Py Ast PortSel Shell

namespace C08

/-! ### `sorted()` erases the order -/

theorem toNat_lt {x y : Char} : x.toNat < y.toNat ↔ x < y := (Char.lt_def.trans UInt32.lt_iff_toNat_lt).symm

theorem strLe_iff_le {a b : Str} : strLe a b = true ↔ a ≤ b := by
  induction a generalizing b with
  | nil => exact iff_of_true rfl (List.nil_le b)
  | cons c cs ih =>
    cases b with
    | nil => exact iff_of_false Bool.false_ne_true fun h => h (List.nil_lt_cons ..)
    | cons d ds =>
      rw [strLe, List.cons_le_cons_iff, ← ih]
      by_cases h1 : c < d
      · rw [if_pos (toNat_lt.mpr h1)]
        exact iff_of_true rfl (.inl h1)
      · rw [if_neg (mt toNat_lt.mp h1)]
        by_cases h2 : d < c
        · rw [if_pos (toNat_lt.mpr h2)]
          exact iff_of_false Bool.false_ne_true fun h => h.elim h1 fun h => h1 (h.1 ▸ h2)
        · rw [if_neg (mt toNat_lt.mp h2)]
          exact ⟨fun h => .inr ⟨Std.Trichotomous.trichotomous _ _ h1 h2, h⟩, fun h => h.elim (absurd · h1) (·.2)⟩

theorem strLe_refl (a : Str) : strLe a a = true := strLe_iff_le.mpr (List.le_refl a)

/-- **`sorted` of a set does not depend on its iteration order** -/
theorem sorted_perm (a b : List Str) (h : a.Perm b) : sorted a = sorted b := by
  have trans : ∀ x y z : Str, strLe x y = true → strLe y z = true → strLe x z = true := fun x y z h1 h2 =>
    strLe_iff_le.mpr (List.le_trans (strLe_iff_le.mp h1) (strLe_iff_le.mp h2))
  have total : ∀ x y : Str, (strLe x y || strLe y x) = true := fun x y =>
    Bool.or_eq_true_iff.mpr ((List.le_total x y).imp strLe_iff_le.mpr strLe_iff_le.mpr)
  unfold sorted
  apply List.Perm.eq_of_pairwise (le := fun x y => strLe x y = true)
  · exact fun x y _ _ h1 h2 => List.le_antisymm (strLe_iff_le.mp h1) (strLe_iff_le.mp h2)
  · exact List.pairwise_mergeSort trans total a
  · exact List.pairwise_mergeSort trans total b
  · exact (List.mergeSort_perm a _).trans (h.trans (List.mergeSort_perm b _).symm)

/-! ### configurations that are equal as Python objects (equal sets, any order) -/

inductive SelEquiv : PortSelect → PortSelect → Prop
  | wild (w) : SelEquiv (.wild w) (.wild w)
  | names (s s' : List Str) (h : s.Perm s') : SelEquiv (.names s) (.names s')

structure CfgEquiv (c c' : SemCfg) : Prop where
  sts : SelEquiv c.sts c'.sts
  mts : SelEquiv c.mts c'.mts

structure PortsEquiv (p p' : PortsCfg) : Prop where
  provides : CfgEquiv p.provides p'.provides
  requires : CfgEquiv p.requires p'.requires
  multiclient : p.multiclient = p'.multiclient

theorem strset_perm {a b} (h : SelEquiv a b) : a.strset.Perm b.strset := by
  cases h with
  | wild w => exact List.Perm.refl _
  | names s s' h => exact h

theorem isWildcardAll_equiv {a b} (h : SelEquiv a b) : a.isWildcardAll = b.isWildcardAll := by
  cases h <;> rfl

theorem isNotEmpty_equiv {a b} (h : SelEquiv a b) : a.isNotEmpty = b.isNotEmpty := by
  cases h <;> rfl

theorem strset_isEmpty_equiv {a b} (h : SelEquiv a b) : a.strset.isEmpty = b.strset.isEmpty :=
  (strset_perm h).isEmpty_eq

theorem contains_equiv {a b} (h : SelEquiv a b) (p : Str) : a.strset.contains p = b.strset.contains p :=
  C03.contains_perm (strset_perm h) p

/-- **the configuration overview printed into the header** is the same for equal configurations -/
theorem semcfg_str_perm (c c' : SemCfg) (h : CfgEquiv c c') : c.str = c'.str := by
  -- the name sets are read through `isEmpty` and `sorted` only; what is left is the kind of selection
  unfold SemCfg.str
  rw [isWildcardAll_equiv h.mts, isWildcardAll_equiv h.sts, strset_isEmpty_equiv h.sts, strset_isEmpty_equiv h.mts,
    sorted_perm _ _ (strset_perm h.sts), sorted_perm _ _ (strset_perm h.mts)]
  obtain ⟨s, m⟩ := c; obtain ⟨s', m'⟩ := c'; obtain ⟨hs, hm⟩ := h
  cases hs <;> cases hm <;> rfl

/-- the semantics of a port is the same for equal configurations -/
theorem semOf_perm (c c' : SemCfg) (h : CfgEquiv c c') (p : Str) : c.semOf p = c'.semOf p := by
  unfold SemCfg.semOf
  rw [contains_equiv h.sts, contains_equiv h.mts]
  obtain ⟨s, m⟩ := c; obtain ⟨s', m'⟩ := c'; obtain ⟨hs, hm⟩ := h
  cases hs <;> cases hm <;> rfl

theorem matchPorts_perm {c c' : SemCfg} (h : CfgEquiv c c') (e : List Str) :
    c.matchPorts e = c'.matchPorts e := by
  unfold SemCfg.matchPorts
  dsimp only
  rw [((strset_perm h.sts).append (strset_perm h.mts)).any_eq, funext (semOf_perm c c' h)]

theorem setEq_perm {a a' b b' : List Str} (ha : a.Perm a') (hb : b.Perm b') : setEq a b = setEq a' b' := by
  unfold setEq
  rw [ha.all_eq, hb.all_eq, funext fun x => C03.contains_perm hb x, funext fun x => C03.contains_perm ha x]

theorem sel_eq_perm {a a' b b'} (ha : SelEquiv a a') (hb : SelEquiv b b') : a.eq b = a'.eq b' := by
  cases ha with
  | wild w => cases hb <;> rfl
  | names s s' hs =>
    cases hb with
    | wild w => rfl
    | names t t' ht => exact setEq_perm hs ht

/-- dataclass equality (which decides between the one-line and the two-line overview) -/
theorem semcfg_eq_perm {a a' b b'} (ha : CfgEquiv a a') (hb : CfgEquiv b b') : a.eq b = a'.eq b' := by
  unfold SemCfg.eq
  rw [sel_eq_perm ha.sts hb.sts, sel_eq_perm ha.mts hb.mts]

/-- the lines of `str(PortsCfg)` in the header comment -/
theorem strLines_perm (p p' : PortsCfg) (h : PortsEquiv p p') : p.strLines = p'.strLines := by
  unfold PortsCfg.strLines
  rw [semcfg_eq_perm h.provides h.requires, semcfg_str_perm _ _ h.provides,
    semcfg_str_perm _ _ h.requires, h.multiclient]

theorem matchAll_perm (p p' : PortsCfg) (h : PortsEquiv p p') (prov req : List Str) :
    p.matchAll prov req = p'.matchAll prov req := by
  unfold PortsCfg.matchAll
  rw [matchPorts_perm h.provides, matchPorts_perm h.requires]

/-! ### the build reads the port configuration through three functions only -/

theorem processPort_congr {cfg cfg' : Config} {sems sems' : List (Str × Sem)}
    (hm : cfg.ports.multiclient = cfg'.ports.multiclient) (hs : ∀ p, sems.lookup p = sems'.lookup p) (fc scope) :
    processPort cfg fc scope sems = processPort cfg' fc scope sems' := by
  funext acc port
  unfold processPort
  simp only [hm, hs]

theorem creatorInfoOverview_cfg (cfg : Config) (ports' : PortsCfg) :
    creatorInfoOverview { cfg with ports := ports' } = creatorInfoOverview cfg := rfl

theorem build_ports_congr (fc : FC) (cfg : Config) (ports' : PortsCfg)
    (hmatch : ∀ prov req, cfg.ports.matchAll prov req = ports'.matchAll prov req)
    (hmc : cfg.ports.multiclient = ports'.multiclient) (hstr : cfg.ports.strLines = ports'.strLines) :
    build fc { cfg with ports := ports' } = build fc cfg := by
  have elements : ∀ enc, createDznElements { cfg with ports := ports' } fc enc = createDznElements cfg fc enc := by
    intro enc
    unfold createDznElements
    simp only [processPort_congr (cfg := { cfg with ports := ports' }) (cfg' := cfg) hmc.symm fun _ => rfl,
      ← hmatch, ← hmc]
  have overview : ∀ o t, configurationOverview { cfg with ports := ports' } o t = configurationOverview cfg o t := by
    intro o t
    unfold configurationOverview
    simp only [← hstr, ← hmc]
  have includes : ∀ o, shellProjectIncludes { cfg with ports := ports' } o = shellProjectIncludes cfg o := by
    intro o
    unfold shellProjectIncludes
    simp only [← hmc]
  unfold build buildShell
  simp only [elements, overview, includes, creatorInfoOverview_cfg]

/-- **C08 (configuration order)**: two configurations that are equal as Python objects — the same
    sets of port names, built or iterated in any order — yield the same build result: the same
    eight file names and byte-identical contents (hence identical hashes) -/
theorem build_cfg_order_free (fc : FC) (cfg : Config) (ports' : PortsCfg) (h : PortsEquiv cfg.ports ports') :
    build fc { cfg with ports := ports' } = build fc cfg :=
  build_ports_congr fc cfg ports' (matchAll_perm _ _ h) h.multiclient (strLines_perm _ _ h)

/-! ### iteration order of the model's port-name sets -/

/-- **C08 (model-side sets)**: whatever order the two port-name sets are iterated in when the
    dictionary of semantics is built, the exposed ports come out the same -/
theorem ports_order_free (cfg : Config) (fc scope) (ports : List Port) (prov prov' req req' : List Str)
    (hp : prov.Perm prov') (hr : req.Perm req') (m m' : List (Str × Sem))
    (hm : cfg.ports.matchAll prov req = .ok m) (hm' : cfg.ports.matchAll prov' req' = .ok m') :
    ports.foldlM (processPort cfg fc scope m) ([], []) = ports.foldlM (processPort cfg fc scope m') ([], []) := by
  rw [processPort_congr (sems' := m') rfl fun p => by
    rw [C03.matchAll_lookup hm, C03.matchAll_lookup hm', C03.contains_perm hp, C03.contains_perm hr]]

theorem matchPorts_sim (c : SemCfg) (e e' : List Str) (h : e.Perm e') :
    Lem.Sim (fun m m' => ∀ p, m.lookup p = m'.lookup p) (c.matchPorts e) (c.matchPorts e') := by
  unfold SemCfg.matchPorts
  rw [funext fun n => congrArg (!·) (C03.contains_perm h n), C03.contains_perm h []]
  refine Lem.Sim.ite (fun _ => .error) fun _ => Lem.Sim.ite (fun _ => .error) fun _ => .ok fun p => ?_
  rw [C03.lookup_filterMap, C03.lookup_filterMap, C03.contains_perm h]

/-- the matching itself succeeds or fails independently of the iteration order -/
theorem matchPorts_ok_order_free (c : SemCfg) (e e' : List Str) (h : e.Perm e') :
    (c.matchPorts e).toBool = (c.matchPorts e').toBool ∧
    (∀ err, c.matchPorts e = .error err ↔ c.matchPorts e' = .error err) := by
  have s := matchPorts_sim c e e' h
  refine ⟨?_, fun err => ⟨s.of_error err, (matchPorts_sim c e' e h.symm).of_error err⟩⟩
  cases hx : c.matchPorts e with
  | error err => rw [s.of_error err hx]
  | ok m =>
    obtain ⟨m', hm', _⟩ := s.of_ok m hx
    rw [hm']; rfl

end C08
