/-
  What the property files share about the error monad `R` and about lists: a successful `do` block
  is inverted with `bind_ok` / `ite_ok` (no unfolding of `bind`, no `split`), a goal about an `if` is
  reduced to its branches with core's `iteInduction`; "fails, if at all, with an error in `S`" is `FailsIn S`, closed
  under everything a `do` block is made of; `mapM` / `foldlM` / `forIn` in `R` and plain folds have their
  membership and invariant lemmas; two runs that differ in something irrelevant are compared in lockstep
  with `Sim`.
-/
import DznModel.Py
open Py

namespace Lem

theorem bind_ok {α β} {x : R α} {f : α → R β} {b : β} (h : x >>= f = .ok b) :
    ∃ a, x = .ok a ∧ f a = .ok b := by
  cases x with
  | error e => cases h
  | ok a => exact ⟨a, rfl, h⟩

theorem bind_error {α β} {x : R α} {f : α → R β} {e : PyErr} (h : x >>= f = .error e) :
    x = .error e ∨ ∃ a, x = .ok a ∧ f a = .error e := by
  cases x with
  | error e' => cases h; exact .inl rfl
  | ok a => exact .inr ⟨a, rfl, h⟩

theorem bind_eq_ok {α β} {x : R α} {f : α → R β} {a : α} {b : β} (hx : x = .ok a) (hf : f a = .ok b) :
    x >>= f = .ok b := by
  rw [hx]; exact hf

theorem pure_ok {α} {a b : α} (h : (pure a : R α) = .ok b) : a = b := Except.ok.inj h

theorem error_of_not_ok {α} {x : R α} (h : ∀ a, x = .ok a → False) : ∃ e, x = .error e := by
  cases x with
  | error e => exact ⟨e, rfl⟩
  | ok a => exact (h a rfl).elim

theorem ite_ok {α} {c : Prop} [Decidable c] {e : PyErr} {y : R α} {b : α}
    (h : (if c then .error e else y) = .ok b) : ¬ c ∧ y = .ok b := by
  split at h
  · cases h
  · exact ⟨‹_›, h⟩

/-! ### the errors a computation can fail with -/

def FailsIn {α} (S : PyErr → Prop) (x : R α) : Prop := ∀ e, x = .error e → S e

namespace FailsIn
-- in here `pure`, `bind`, `ok`, `error`, `mapM`, … name the lemmas below, not the operations of `R` (hence `Pure.pure`)
variable {S : PyErr → Prop} {α β : Type}

theorem ok {a : α} : FailsIn S (.ok a) := fun _ h => nomatch h

theorem pure {a : α} : FailsIn S (Pure.pure a : R α) := ok

theorem error {e : PyErr} (h : S e) : FailsIn S (.error e : R α) := fun _ h' => Except.error.inj h' ▸ h

theorem bind_of_ok {x : R α} {f : α → R β} (hx : FailsIn S x) (hf : ∀ a, x = .ok a → FailsIn S (f a)) :
    FailsIn S (x >>= f) := by
  intro e h
  rcases bind_error h with h | ⟨a, ha, h⟩
  · exact hx e h
  · exact hf a ha e h

theorem bind {x : R α} {f : α → R β} (hx : FailsIn S x) (hf : ∀ a, FailsIn S (f a)) : FailsIn S (x >>= f) :=
  hx.bind_of_ok fun a _ => hf a

theorem ite {c : Prop} [Decidable c] {x y : R α} (hx : FailsIn S x) (hy : FailsIn S y) :
    FailsIn S (if c then x else y) :=
  iteInduction (fun _ => hx) (fun _ => hy)

theorem mapM {ι} {f : ι → R β} {l : List ι} (hf : ∀ a ∈ l, FailsIn S (f a)) : FailsIn S (l.mapM f) := by
  induction l with
  | nil => exact pure
  | cons a r ih =>
    rw [List.mapM_cons]
    exact (hf a List.mem_cons_self).bind fun _ => (ih fun x hx => hf x (List.mem_cons_of_mem _ hx)).bind fun _ => pure

theorem foldlM {ι} {f : β → ι → R β} {l : List ι} {b : β} (hf : ∀ b, ∀ a ∈ l, FailsIn S (f b a)) :
    FailsIn S (l.foldlM f b) := by
  induction l generalizing b with
  | nil => exact pure
  | cons a r ih =>
    rw [List.foldlM_cons]
    exact (hf b a List.mem_cons_self).bind fun _ => ih fun b x hx => hf b x (List.mem_cons_of_mem _ hx)

theorem forIn {ι} {f : ι → β → R (ForInStep β)} {l : List ι} {b : β} (hf : ∀ a ∈ l, ∀ b, FailsIn S (f a b)) :
    FailsIn S (forIn l b f) := by
  induction l generalizing b with
  | nil => exact pure
  | cons a r ih =>
    rw [List.forIn_cons]
    exact (hf a List.mem_cons_self b).bind fun
      | .done _ => pure
      | .yield _ => ih fun x hx => hf x (List.mem_cons_of_mem _ hx)

theorem of_ok {x : R α} {a : α} (h : x = .ok a) : FailsIn S x := h ▸ ok

theorem succeeds {x : R α} (h : FailsIn (fun _ => False) x) : ∃ a, x = .ok a := by
  cases x with
  | ok a => exact ⟨a, rfl⟩
  | error e => exact (h e rfl).elim

end FailsIn

/-! ### loops in `R` -/

theorem mapM_cons_ok {α β} {f : α → R β} {a : α} {l : List α} {r : List β} (h : (a :: l).mapM f = .ok r) :
    ∃ b bs, f a = .ok b ∧ l.mapM f = .ok bs ∧ r = b :: bs := by
  rw [List.mapM_cons] at h
  obtain ⟨b, hb, h⟩ := bind_ok h
  obtain ⟨bs, hbs, h⟩ := bind_ok h
  exact ⟨b, bs, hb, hbs, (pure_ok h).symm⟩

theorem mapM_mem {α β} {f : α → R β} {l : List α} {r : List β} (h : l.mapM f = .ok r) :
    ∀ b ∈ r, ∃ a ∈ l, f a = .ok b := by
  induction l generalizing r with
  | nil => cases h; intro _ h; cases h
  | cons a t ih =>
    obtain ⟨b, bs, hb, hbs, rfl⟩ := mapM_cons_ok h
    intro x hx
    rcases List.mem_cons.mp hx with rfl | hx
    · exact ⟨a, List.mem_cons_self, hb⟩
    · obtain ⟨a', ha', hf⟩ := ih hbs x hx
      exact ⟨a', List.mem_cons_of_mem _ ha', hf⟩

theorem mapM_mem_fwd {α β} {f : α → R β} {l : List α} {r : List β} (h : l.mapM f = .ok r) :
    ∀ a ∈ l, ∃ b ∈ r, f a = .ok b := by
  induction l generalizing r with
  | nil => intro _ h; cases h
  | cons a t ih =>
    obtain ⟨b, bs, hb, hbs, rfl⟩ := mapM_cons_ok h
    intro x hx
    rcases List.mem_cons.mp hx with rfl | hx
    · exact ⟨b, List.mem_cons_self, hb⟩
    · obtain ⟨b', hb', hf⟩ := ih hbs x hx
      exact ⟨b', List.mem_cons_of_mem _ hb', hf⟩

theorem mapM_bind_pure {α β γ} {g : α → R β} {k : α → β → γ} {l : List α} {r : List γ}
    (h : l.mapM (fun a => g a >>= fun b => pure (k a b)) = .ok r) :
    (∀ a ∈ l, ∃ b, g a = .ok b ∧ k a b ∈ r) ∧ (∀ c ∈ r, ∃ a ∈ l, ∃ b, g a = .ok b ∧ c = k a b) := by
  constructor
  · intro a ha
    obtain ⟨c, hc, hf⟩ := mapM_mem_fwd h a ha
    obtain ⟨b, hb, hf⟩ := bind_ok hf
    exact ⟨b, hb, pure_ok hf ▸ hc⟩
  · intro c hc
    obtain ⟨a, ha, hf⟩ := mapM_mem h c hc
    obtain ⟨b, hb, hf⟩ := bind_ok hf
    exact ⟨a, ha, b, hb, (pure_ok hf).symm⟩

theorem mem_flatten_mapM {α β} {f : α → R (List β)} {l : List α} {r : List (List β)} (h : l.mapM f = .ok r) {b : β}
    (hb : b ∈ r.flatten) : ∃ a ∈ l, ∃ bs, f a = .ok bs ∧ b ∈ bs := by
  obtain ⟨bs, hbs, hb⟩ := List.mem_flatten.mp hb
  obtain ⟨a, ha, hf⟩ := mapM_mem h bs hbs
  exact ⟨a, ha, bs, hf, hb⟩

theorem mem_flatten_map₂ {α β γ} {g : α → List β} {k : α → β → γ} {l : List α} {c : γ} :
    c ∈ (l.map fun a => (g a).map (k a)).flatten ↔ ∃ a ∈ l, ∃ b ∈ g a, k a b = c := by
  simp only [List.mem_flatten, List.mem_map]
  constructor
  · rintro ⟨_, ⟨a, ha, rfl⟩, hc⟩
    obtain ⟨b, hb, e⟩ := List.mem_map.mp hc
    exact ⟨a, ha, b, hb, e⟩
  · rintro ⟨a, ha, b, hb, e⟩
    exact ⟨_, ⟨a, ha, rfl⟩, List.mem_map.mpr ⟨b, hb, e⟩⟩

/-- for any lawful monad: used in `R` and in `Option` -/
theorem mapM_map_pure {m : Type → Type} [Monad m] [LawfulMonad m] {α β γ} {enc : α → γ} {p : γ → m β} {g : α → β}
    {l : List α} (h : ∀ a ∈ l, p (enc a) = pure (g a)) : (l.map enc).mapM p = pure (l.map g) := by
  induction l with
  | nil => rfl
  | cons a r ih =>
    rw [List.map_cons, List.mapM_cons, h a List.mem_cons_self, ih fun x hx => h x (List.mem_cons_of_mem _ hx)]
    simp only [pure_bind, List.map_cons]

theorem map_eq_map_of_mapM {α β γ} {f : α → R β} {g : β → γ} {k : α → γ} {l : List α} {r : List β}
    (hf : ∀ a b, f a = .ok b → g b = k a) (h : l.mapM f = .ok r) : r.map g = l.map k := by
  induction l generalizing r with
  | nil => cases h; rfl
  | cons a t ih =>
    obtain ⟨b, bs, hb, hbs, rfl⟩ := mapM_cons_ok h
    rw [List.map_cons, List.map_cons, hf a b hb, ih hbs]

theorem foldlM_inv {α β} {f : β → α → R β} (P : β → Prop) {l : List α} {b r : β}
    (hstep : ∀ b a b', a ∈ l → P b → f b a = .ok b' → P b') (h0 : P b) (h : l.foldlM f b = .ok r) : P r := by
  induction l generalizing b with
  | nil => cases h; exact h0
  | cons a t ih =>
    rw [List.foldlM_cons] at h
    obtain ⟨b', hb', h⟩ := bind_ok h
    exact ih (fun b a b' ha => hstep b a b' (List.mem_cons_of_mem _ ha)) (hstep b a b' List.mem_cons_self h0 hb') h

/-- what each step establishes of its own element (`hstep`), and later steps keep (`hkeep`), holds of every element at the end -/
theorem foldlM_forall {α β} {f : β → α → R β} (Q : α → β → Prop) {l : List α} {b r : β}
    (hstep : ∀ b a b', f b a = .ok b' → Q a b') (hkeep : ∀ x b a b', Q x b → f b a = .ok b' → Q x b')
    (h : l.foldlM f b = .ok r) : ∀ a ∈ l, Q a r := by
  induction l generalizing b with
  | nil => intro _ ha; cases ha
  | cons a t ih =>
    rw [List.foldlM_cons] at h
    obtain ⟨b', hb', ht⟩ := bind_ok h
    intro x hx
    rcases List.mem_cons.mp hx with rfl | hx
    · exact foldlM_inv (Q x) (fun b a b' _ => hkeep x b a b') (hstep b x b' hb') ht
    · exact ih ht x hx

/-- for a loop whose body never breaks (`hstep` yields): an invariant that may speak of the elements done so far -/
theorem forIn_inv {α β} {f : α → β → R (ForInStep β)} (P : List α → β → Prop) {l : List α} {s r : β}
    (hstep : ∀ done a s x, P done s → f a s = .ok x → ∃ s', x = .yield s' ∧ P (done ++ [a]) s')
    (h0 : P [] s) (h : forIn l s f = .ok r) : P l r := by
  suffices ∀ done s, P done s → forIn l s f = .ok r → P (done ++ l) r from this [] s h0 h
  clear h h0
  induction l with
  | nil => intro done s hP h; cases h; rwa [List.append_nil]
  | cons a t ih =>
    intro done s hP h
    rw [List.forIn_cons] at h
    obtain ⟨x, hx, h⟩ := bind_ok h
    obtain ⟨s', rfl, hP'⟩ := hstep done a s x hP hx
    rw [List.append_cons]
    exact ih (done ++ [a]) s' hP' h

/-! ### plain folds and lists -/

/-- every step leaves the observation `obs` alone or sets it to `v` (on states satisfying `I`), and some step sets it
    to `v` whatever the state: then the fold ends with `v` -/
theorem foldl_last_writer {σ α β} (obs : σ → β) {step : σ → α → σ} {v : β} {l : List α} {s : σ}
    (I : σ → Prop) (h0 : I s)
    (hstep : ∀ s, I s → ∀ a ∈ l, I (step s a) ∧ (obs (step s a) = obs s ∨ obs (step s a) = v))
    (hwrite : ∃ a ∈ l, ∀ s, I s → obs (step s a) = v) : obs (l.foldl step s) = v := by
  -- the write is still to come, or `v` is already there
  suffices h : ∀ s, I s → (∃ a ∈ l, ∀ s, I s → obs (step s a) = v) ∨ obs s = v → obs (l.foldl step s) = v from
    h s h0 (.inl hwrite)
  clear hwrite
  induction l with
  | nil =>
    rintro s _ (⟨_, ha, _⟩ | h)
    · cases ha
    · exact h
  | cons a t ih =>
    intro s hs h
    obtain ⟨hI, hobs⟩ := hstep s hs a List.mem_cons_self
    refine ih (fun s hs b hb => hstep s hs b (List.mem_cons_of_mem _ hb)) _ hI ?_
    rcases h with ⟨b, hb, hw⟩ | h
    · rcases List.mem_cons.mp hb with rfl | hb
      · exact .inr (hw s hs)
      · exact .inl ⟨b, hb, hw⟩
    · exact .inr (hobs.elim (fun e => e.trans h) id)

theorem length_eq_of_map_eq {α β γ} {f : α → γ} {g : β → γ} {l : List α} {m : List β} (h : l.map f = m.map g) :
    l.length = m.length := by
  rw [← List.length_map (f := f), h, List.length_map]

theorem nodup_map_inj {α β} {f : α → β} {l : List α} (h : (l.map f).Nodup) {a b : α} (ha : a ∈ l) (hb : b ∈ l)
    (e : f a = f b) : a = b := by
  induction l with
  | nil => cases ha
  | cons x t ih =>
    rw [List.map_cons, List.nodup_cons] at h
    rcases List.mem_cons.mp ha with hax | ha <;> rcases List.mem_cons.mp hb with hbx | hb
    · rw [hax, hbx]
    · exact absurd (hax ▸ e ▸ List.mem_map.mpr ⟨b, hb, rfl⟩) h.1
    · exact absurd (hbx ▸ e ▸ List.mem_map.mpr ⟨a, ha, rfl⟩) h.1
    · exact ih h.2 ha hb

section
variable {α β : Type} [BEq α]

theorem lookup_cons_ne {k p : α} {v : β} {l : List (α × β)} (h : (p == k) = false) :
    ((k, v) :: l).lookup p = l.lookup p := by
  rw [List.lookup_cons, h]

theorem lookup_filter [LawfulBEq α] (q : α × β → Bool) (a : List (α × β)) (p : α) (h : ∀ v, q (p, v) = true) :
    (a.filter q).lookup p = a.lookup p := by
  induction a with
  | nil => rfl
  | cons x t ih =>
    obtain ⟨k, v⟩ := x
    cases hpk : p == k with
    | true =>
      cases eq_of_beq hpk
      rw [List.filter_cons_of_pos (h v), List.lookup_cons_self, List.lookup_cons_self]
    | false =>
      rw [lookup_cons_ne hpk, ← ih, List.filter_cons]
      exact iteInduction (motive := fun l => List.lookup p l = _) (fun _ => lookup_cons_ne hpk) fun _ => rfl

end

theorem find?_unique {α} {l : List α} {q : α → Bool} {x : α} (hx : x ∈ l) (hq : q x = true)
    (hu : ∀ y ∈ l, q y = true → y = x) : l.find? q = some x := by
  induction l with
  | nil => cases hx
  | cons a r ih =>
    rw [List.find?_cons]
    cases ha : q a with
    | true => rw [hu a List.mem_cons_self ha]
    | false =>
      rcases List.mem_cons.mp hx with rfl | hxr
      · rw [hq] at ha; cases ha
      · exact ih hxr fun y hy => hu y (List.mem_cons_of_mem _ hy)

/-! ### two computations in lockstep -/

structure Sim {α β} (Q : α → β → Prop) (x : R α) (y : R β) : Prop where
  of_error : ∀ e, x = .error e → y = .error e
  of_ok : ∀ a, x = .ok a → ∃ b, y = .ok b ∧ Q a b

theorem Sim.error {α β} {Q : α → β → Prop} {e : PyErr} : Sim Q (.error e) (.error e) :=
  ⟨fun _ h => (by cases h; rfl), fun _ h => by cases h⟩

theorem Sim.ok {α β} {Q : α → β → Prop} {a : α} {b : β} (h : Q a b) : Sim Q (.ok a) (.ok b) :=
  ⟨fun _ h => (by cases h), fun _ h' => by cases h'; exact ⟨b, rfl, h⟩⟩

theorem Sim.bind {α β γ} {Q : β → γ → Prop} {x : R α} {f : α → R β} {g : α → R γ}
    (h : ∀ a, Sim Q (f a) (g a)) : Sim Q (x >>= f) (x >>= g) := by
  cases x with
  | error e => exact .error
  | ok a => exact h a

theorem Sim.ite {α β} {Q : α → β → Prop} {c : Prop} [Decidable c] {x x' : R α} {y y' : R β}
    (h : c → Sim Q x y) (h' : ¬ c → Sim Q x' y') : Sim Q (if c then x else x') (if c then y else y') := by
  split
  · exact h ‹_›
  · exact h' ‹_›

end Lem
