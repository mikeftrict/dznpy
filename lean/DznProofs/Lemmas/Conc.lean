/-
  Lemmas about the interleaving model DznModel.Conc: what `setPc` leaves alone, the transition
  relation that `step` computes on enabled actions, and induction along `run`.
-/
import DznModel.Conc
open Conc

namespace C11

@[simp] theorem pcs_setPc (s : State) (c d : Client) (p : Pc) :
    (setPc s c p).pcs d = if d = c then p else s.pcs d := rfl
@[simp] theorem busy_setPc (s : State) (c : Client) (p : Pc) : (setPc s c p).busy = s.busy := rfl
@[simp] theorem selected_setPc (s : State) (c : Client) (p : Pc) : (setPc s c p).selected = s.selected := rfl
@[simp] theorem deliveries_setPc (s : State) (c : Client) (p : Pc) : (setPc s c p).deliveries = s.deliveries := rfl

end C11

namespace Conc

theorem mem_holders {s : State} {x : Client} : x ∈ holders s ↔ x < s.n ∧ s.pcs x = .holding := by
  simp [holders]

theorem setPc_invisible {β} (f : Pc → β) {s : State} {c : Client} {p q : Pc} (hp : s.pcs c = p)
    (h : f q = f p) (d : Client) : f ((setPc s c q).pcs d) = f (s.pcs d) := by
  rw [C11.pcs_setPc]
  by_cases hd : d = c
  · rw [if_pos hd, hd, hp, h]
  · rw [if_neg hd]

inductive Transition (asIs : Bool) (s : State) : Action → State → Prop
  | postClaim {c} : c < s.n → s.pcs c = .idle →
      Transition asIs s (.postClaim c) { setPc s c .waitClaim with queue := s.queue ++ [.claim c] }
  | postRelease {c} : c < s.n → s.pcs c = .holding →
      Transition asIs s (.postRelease c) { setPc s c .waitRelease with queue := s.queue ++ [.release c] }
  | raiseOut : 0 < s.outsLeft →
      Transition asIs s .raiseOut { s with queue := s.queue ++ [.out], outsLeft := s.outsLeft - 1 }
  | claimStale {c rest} : s.dpc = .idle → s.queue = .claim c :: rest → s.pcs c ≠ .waitClaim →
      Transition asIs s .dispatch { s with queue := rest }
  | claimDenied {c rest} : s.dpc = .idle → s.queue = .claim c :: rest → s.pcs c = .waitClaim →
      s.busy = true →
      Transition asIs s .dispatch { setPc s c .idle with queue := rest }
  | claimGranted {c rest} : s.dpc = .idle → s.queue = .claim c :: rest → s.pcs c = .waitClaim →
      s.busy = false →
      Transition asIs s .dispatch { setPc s c .granted with queue := rest, busy := true }
  | releaseStale {c rest} : s.dpc = .idle → s.queue = .release c :: rest → s.pcs c ≠ .waitRelease →
      Transition asIs s .dispatch { s with queue := rest }
  | releaseDone {c rest} : s.dpc = .idle → s.queue = .release c :: rest → s.pcs c = .waitRelease →
      Transition asIs s .dispatch { setPc s c .released with queue := rest, busy := false }
  | outLock {rest} : s.dpc = .idle → s.queue = .out :: rest → s.lock = none →
      Transition asIs s .dispatch { s with lock := some .dispatcher, dpc := .outLocked }
  | outDeliver : s.dpc = .outLocked →
      Transition asIs s .dispatch
        { s with dpc := .outDelivered, deliveries := (s.selected, holders s) :: s.deliveries }
  | outUnlock : s.dpc = .outDelivered →
      Transition asIs s .dispatch { s with dpc := .idle, lock := none, queue := s.queue.drop 1 }
  | selLock {c} : c < s.n → s.pcs c = .granted → s.lock = none →
      Transition asIs s (.clientStep c) { setPc s c .selLocked with lock := some (.client c) }
  | selWrite {c} : c < s.n → s.pcs c = .selLocked →
      Transition asIs s (.clientStep c) { setPc s c .selWritten with selected := some c }
  | selUnlock {c} : c < s.n → s.pcs c = .selWritten →
      Transition asIs s (.clientStep c) { setPc s c .holding with lock := none }
  | deselLock {c} : c < s.n → s.pcs c = .released → s.lock = none →
      Transition asIs s (.clientStep c) { setPc s c .deselLocked with lock := some (.client c) }
  | deselWrite {c} : c < s.n → s.pcs c = .deselLocked →
      Transition asIs s (.clientStep c)
        { setPc s c .deselWritten with
          selected := if asIs then none else (if s.selected = some c then none else s.selected) }
  | deselUnlock {c} : c < s.n → s.pcs c = .deselWritten →
      Transition asIs s (.clientStep c) { setPc s c .idle with lock := none }

theorem step_transition (asIs : Bool) {s : State} {a : Action} (he : enabled s a = true) :
    Transition asIs s a (step asIs s a) := by
  cases a with
  | postClaim c =>
    simp only [enabled, Bool.and_eq_true, decide_eq_true_eq] at he
    exact .postClaim he.1 he.2
  | postRelease c =>
    simp only [enabled, Bool.and_eq_true, decide_eq_true_eq] at he
    exact .postRelease he.1 he.2
  | raiseOut => exact .raiseOut (of_decide_eq_true he)
  | dispatch =>
    -- with the state taken apart, `step` and `enabled` reduce by the cases of `dpc` and `queue`
    obtain ⟨n, pcs, queue, busy, selected, lock, dpc, deliveries, outsLeft⟩ := s
    cases dpc with
    | outLocked => exact .outDeliver rfl
    | outDelivered => exact .outUnlock rfl
    | idle =>
      cases queue with
      | nil => cases he
      | cons k rest =>
        cases k with
        | out => exact .outLock rfl rfl (of_decide_eq_true he)
        | claim c =>
          refine iteInduction (motive := Transition asIs _ _) (.claimStale rfl rfl) fun hw => ?_
          have hw := Decidable.not_not.mp hw
          exact iteInduction (motive := Transition asIs _ _) (.claimDenied rfl rfl hw)
            fun hb => .claimGranted rfl rfl hw (Bool.eq_false_iff.mpr hb)
        | release c =>
          exact iteInduction (motive := Transition asIs _ _) (.releaseStale rfl rfl)
            fun hw => .releaseDone rfl rfl (Decidable.not_not.mp hw)
  | clientStep c =>
    simp only [enabled, Bool.and_eq_true, decide_eq_true_eq, pcOf] at he
    obtain ⟨hc, hg⟩ := he
    simp only [step, pcOf]
    revert hg
    cases hp : s.pcs c with
    | idle | waitClaim | holding | waitRelease => nofun
    | granted => exact fun hg => .selLock hc hp (of_decide_eq_true hg)
    | selLocked => exact fun _ => .selWrite hc hp
    | selWritten => exact fun _ => .selUnlock hc hp
    | released => exact fun hg => .deselLock hc hp (of_decide_eq_true hg)
    | deselLocked => exact fun _ => .deselWrite hc hp
    | deselWritten => exact fun _ => .deselUnlock hc hp

theorem enabled_mem {s : State} {a : Action} (he : enabled s a = true) : a ∈ allActions s := by
  simp only [allActions, List.mem_append, List.mem_flatMap, List.mem_range]
  cases a with
  | raiseOut | dispatch => exact .inr (by simp)
  | postClaim c | postRelease c | clientStep c =>
    simp only [enabled, Bool.and_eq_true, decide_eq_true_eq] at he
    exact .inl ⟨c, he.1, by simp⟩

theorem Transition.n_eq {asIs : Bool} {s t : State} {a : Action} (ht : Transition asIs s a t) :
    t.n = s.n := by
  cases ht <;> rfl

theorem run_induction {P : State → Prop} {asIs : Bool}
    (hstep : ∀ s a, P s → enabled s a = true → P (step asIs s a)) :
    ∀ (acts : List Action) {s : State}, P s → P (run asIs s acts)
  | [], _, h => h
  | a :: as, s, h =>
    iteInduction (motive := P) (fun he => run_induction hstep as (hstep s a h he))
      fun _ => run_induction hstep as h

end Conc
