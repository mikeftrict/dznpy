/-
  What the program-level files use of the wiring semantics (`DznModel.Sem`): the store (`get_set_*`),
  argument passing (`evalArgs_self`), the equations of `Sem.invokeR` / `Sem.drainR`, one per kind of slot
  content, by which a call is executed symbolically, and what no call changes (`framedR_invoke_drain`).
-/
import DznModel.Sem
import DznProofs.Lemmas.Basic
open Ast Shell Sem

namespace Lem

theorem get_set_same {w : World} {s : RSlot} {h : RH} : (w.set s h).get s = some h := by
  simp [World.get, World.set]

theorem get_set_other {w : World} {s t : RSlot} {h : RH} (hne : t ≠ s) :
    (w.set s h).get t = w.get t := by
  unfold World.get World.set
  rw [List.find?_cons_of_neg (by simpa using hne.symm), List.find?_filter]
  congr 2
  funext a
  by_cases ha : a.1 = t
  · simp [ha, hne]
  · simp [ha]

theorem evalArgs_self (ps : List LParam) (vals : List Val) (hlen : ps.length = vals.length)
    (hnd : (ps.map (·.name)).Nodup) : evalArgs ps vals (ps.map (·.name)) = some vals := by
  -- in terms of the list of (parameter, value) pairs: each name finds its own pair, the names being distinct
  have hps : (ps.zip vals).map (·.1) = ps := List.map_fst_zip (Nat.le_of_eq hlen)
  have hvals : (ps.zip vals).map (·.2) = vals := List.map_snd_zip (Nat.le_of_eq hlen.symm)
  unfold evalArgs
  generalize ps.zip vals = l at hps hvals
  subst hps hvals
  rw [List.map_map] at hnd ⊢
  exact mapM_map_pure fun x hx => congrArg (Option.map (·.2))
    (find?_unique hx (decide_eq_true rfl) fun y hy e => nodup_map_inj hnd hy hx (of_decide_eq_true e))

/-! ### what a call does, by what the slot holds

The equations are stated for `invokeR` / `drainR`; a statement about `invoke` / `drain` is reached through
`SemReact.invokeR_nil` / `SemReact.drainR_nil`, where a scripted handler finds no reaction
(`invokeR_scripted_none` with `ite_self`: both branches of the lookup are `none`). -/

section
variable {rx : Reactions} {w : World} {s : RSlot} {args : List Val} {n : Nat} {ev : Event} {cid cmv : Str}

theorem invokeR_zero : invokeR rx 0 w s args = (w, .exc (.runtimeError (L "fuel"))) := rfl

theorem invokeR_none (h : w.get s = none) : invokeR rx (n + 1) w s args = (w, .exc .badFunctionCall) := by
  rw [invokeR, h]

theorem invokeR_scripted {who port} (h : w.get s = some (.scripted who port ev)) :
    invokeR rx (n + 1) w s args =
      let (w', r, a') := scriptedRun w who port ev args
      match (if who == .comp then reactionOf rx w' port ev.name else none) with
      | none => (w', .ok r a')
      | some (oport, oev, m) =>
        let (w'', r2) := invokeR rx n w' { obj := .enc oport, dir := .out, ev := oev } (List.replicate m 0)
        match r2 with
        | .exc e => (w''.emit (L "nested exc " ++ e.str), .ok r a')
        | .ok _ _ => (w'', .ok r a') := by
  rw [invokeR, h]; rfl

theorem invokeR_scripted_none {who port} (h : w.get s = some (.scripted who port ev))
    (hr : (if who == .comp then reactionOf rx (scriptedRun w who port ev args).1 port ev.name else none) = none) :
    invokeR rx (n + 1) w s args =
      ((scriptedRun w who port ev args).1,
       .ok (scriptedRun w who port ev args).2.1 (scriptedRun w who port ev args).2.2) := by
  rw [invokeR_scripted h]
  simp only [hr]

theorem invokeR_noop (h : w.get s = some (.noop ev)) :
    invokeR rx (n + 1) w s args = (w, .ok (if isVoid ev then none else some 0) args) := by
  rw [invokeR, h]

theorem invokeR_ref {t} (h : w.get s = some (.ir (.ref t) ev cid cmv)) :
    invokeR rx (n + 1) w s args = invokeR rx n w (resolveSlot t cmv cid) args := by
  rw [invokeR, h]

theorem invokeR_shell {callee ps callArgs byVal}
    (h : w.get s = some (.ir (.shell callee ps callArgs byVal) ev cid cmv)) :
    invokeR rx (n + 1) w s args =
      match drainR rx n { w with shellCalls := w.shellCalls + 1, pumpTouched := true } with
      | (w, some e) => (w, .exc e)
      | (w, none) =>
        match evalArgs ps args callArgs with
        | none => (w, .exc (.runtimeError (L "ill-formed-call")))
        | some cargs =>
          let (w', r) := invokeR rx n { w with inDispatch := true } (resolveSlot callee cmv cid) cargs
          let w' := { w' with inDispatch := w.inDispatch, executed := w'.executed + 1 }
          match r with
          | .exc e => (w', .exc e)
          | .ok rep after => (w', .ok (if isVoid ev then none else rep) (writeBack ps args callArgs after)) := by
  rw [invokeR, h]; rfl

theorem invokeR_post {callee ps callArgs byVal}
    (h : w.get s = some (.ir (.post callee ps callArgs byVal) ev cid cmv)) :
    invokeR rx (n + 1) w s args =
      match evalArgs ps args callArgs with
      | none => (w, .exc (.runtimeError (L "ill-formed-call")))
      | some cargs =>
        ({ w with posted := w.posted + 1, pumpTouched := true,
                  queue := w.queue ++ [{ callee := resolveSlot callee cmv cid, args := cargs,
                                         dangling := callArgs.any (fun a => !byVal.contains a) }] },
         .ok none args) := by
  rw [invokeR, h]; rfl

theorem invokeR_mcDeliver {mv evName ps callArgs}
    (h : w.get s = some (.ir (.mcDeliver mv evName ps callArgs) ev cid cmv)) :
    invokeR rx (n + 1) w s args =
      match w.selector mv with
      | none => (w, .exc (.runtimeError (L "no-selector")))
      | some sel =>
        match sel.selected with
        | none => (w, .ok none args)
        | some id =>
          match evalArgs ps args callArgs with
          | none => (w, .exc (.runtimeError (L "ill-formed-call")))
          | some cargs =>
            let (w, r) := invokeR rx n w { obj := .client mv id, dir := .out, ev := evName } cargs
            match r with
            | .exc e => (w, .exc e)
            | .ok _ _ => (w, .ok none args) := by
  rw [invokeR, h]; rfl

theorem invokeR_mcClaim {mv evName ps callArgs grant}
    (h : w.get s = some (.ir (.mcClaim mv evName ps callArgs grant) ev cid cmv)) :
    invokeR rx (n + 1) w s args =
      match evalArgs ps args callArgs with
      | none => (w, .exc (.runtimeError (L "ill-formed-call")))
      | some cargs =>
        let (w, r) := invokeR rx n w { obj := .arb mv, dir := .in_, ev := evName } cargs
        match r with
        | .exc e => (w, .exc e)
        | .ok rep after =>
          let granted : Bool := match rep, w.grantIndex with
            | some v, some g => decide (v = (g : Int))
            | _, _ => false
          let w := if granted then
              match w.selector mv with
              | some sel => w.setSelector (sel.select cid)
              | none => w
            else w
          (w, .ok rep (writeBack ps args callArgs after)) := by
  rw [invokeR, h]; rfl

theorem invokeR_mcRelease {mv e calledEv ps callArgs}
    (h : w.get s = some (.ir (.mcRelease mv e calledEv ps callArgs) ev cid cmv)) :
    invokeR rx (n + 1) w s args =
      match evalArgs ps args callArgs with
      | none => (w, .exc (.runtimeError (L "ill-formed-call")))
      | some cargs =>
        let (w, r) := invokeR rx n w { obj := .arb mv, dir := .in_, ev := calledEv } cargs
        match r with
        | .exc e => (w, .exc e)
        | .ok _ after =>
          let w := match w.selector mv with
            | some sel => w.setSelector (sel.deselect cid)
            | none => w
          (w, .ok none (writeBack ps args callArgs after)) := by
  rw [invokeR, h]; rfl

theorem drainR_zero : drainR rx 0 w = (w, none) := rfl

theorem drainR_empty (h : w.queue = []) : drainR rx (n + 1) w = (w, none) := by
  rw [drainR, h]

theorem drainR_cons {c rest} (h : w.queue = c :: rest) :
    drainR rx (n + 1) w =
      if c.dangling then ({ w with queue := rest }, some .dangling) else
      let (w', r) := invokeR rx n { w with queue := rest, inDispatch := true } c.callee c.args
      let w' := { w' with inDispatch := w.inDispatch }
      match r with
      | .exc e => (w', some e)
      | .ok _ _ => drainR rx n { w' with executed := w'.executed + 1 } := by
  rw [drainR, h]; rfl
end

/-- every field no call writes, as one value (calls write the queue, the dispatch flag, the counters, the
    selectors and the trace).  A world in which only those are updated (`{ w with inDispatch := true }`,
    `w.setSelector s`) has the same `framed` by reduction, so equations between `framed` values chain across
    such updates as they are. -/
def framed (w : World) :=
  (w.store, w.ir, w.allPorts, w.grantIndex, w.instName, w.protoPump, w.fac, w.replies, w.parentSet)

theorem framedR_invoke_drain (rx : Reactions) (n : Nat) :
    (∀ w s args, framed (invokeR rx n w s args).1 = framed w) ∧ (∀ w, framed (drainR rx n w).1 = framed w) := by
  induction n with
  | zero => exact ⟨fun w s args => by rw [invokeR_zero], fun w => by rw [drainR_zero]⟩
  | succ n ih =>
    obtain ⟨ihI, ihD⟩ := ih
    -- `Select` / `Deselect` after a call that kept the frame
    have hsel : ∀ {w w' : World} (mv : Str) (f : Selector → Selector), framed w' = framed w →
        framed (match w'.selector mv with | some sel => w'.setSelector (f sel) | none => w') = framed w := by
      intro w w' mv f h
      split <;> exact h
    -- by what the slot holds (the queue's head); in each case the world is the caller's, that of a
    -- nested call or drain, or one of these with other fields or the selector updated
    constructor
    · intro w s args
      cases hg : w.get s with
      | none => rw [invokeR_none hg]
      | some rh =>
        cases rh with
        | scripted who port ev =>
          rw [invokeR_scripted hg]
          dsimp only
          split
          · rfl
          · rename_i oport oev m _
            -- the instance is given where the nested call's world is updated afterwards (here the logged
            -- exception, below flag and counter): found by unification through the update it is slow to check
            have h2 := ihI (scriptedRun w who port ev args).1 { obj := .enc oport, dir := .out, ev := oev }
              (List.replicate m 0)
            split <;> exact h2
        | noop ev => rw [invokeR_noop hg]
        | ir h ev cid cmv =>
          cases h with
          | ref t => rw [invokeR_ref hg]; exact ihI ..
          | shell callee ps callArgs byVal =>
            rw [invokeR_shell hg]
            have h1 := ihD { w with shellCalls := w.shellCalls + 1, pumpTouched := true }
            split <;> rename_i hd <;> rw [hd] at h1
            · exact h1
            · split
              · exact h1
              · rename_i w1 _ cargs _
                have h2 := ihI { w1 with inDispatch := true } (resolveSlot callee cmv cid) cargs
                dsimp only
                split <;> exact h2.trans h1
          | post callee ps callArgs byVal =>
            rw [invokeR_post hg]
            split <;> rfl
          | mcDeliver mv evName ps callArgs =>
            rw [invokeR_mcDeliver hg]
            split
            · rfl
            · split
              · rfl
              · split
                · rfl
                · dsimp only
                  split <;> exact ihI ..
          | mcClaim mv evName ps callArgs g =>
            rw [invokeR_mcClaim hg]
            split
            · rfl
            · dsimp only
              split
              · exact ihI ..
              · exact iteInduction (motive := fun w' => framed (w', _).1 = framed w) (fun _ => hsel mv _ (ihI ..))
                  fun _ => ihI ..
          | mcRelease mv e calledEv ps callArgs =>
            rw [invokeR_mcRelease hg]
            split
            · rfl
            · dsimp only
              split
              · exact ihI ..
              · exact hsel mv _ (ihI ..)
    · intro w
      cases hq : w.queue with
      | nil => rw [drainR_empty hq]
      | cons c rest =>
        rw [drainR_cons hq]
        split
        · rfl
        · have h1 := ihI { w with queue := rest, inDispatch := true } c.callee c.args
          dsimp only
          split
          · exact h1
          · exact (ihD _).trans h1

end Lem
