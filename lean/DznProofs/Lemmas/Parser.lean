/-
  What the property files share about the parser model: what a getter of `ElementHelper` or a parser on the path from
  the root to an event went through when it succeeded, and the equations of `parse_element` by the class of the element.
-/
import DznModel.Parser
import DznProofs.Lemmas.Basic
import DznProofs.Lemmas.Scoping
open Py Scoping Ast JVal Parser

namespace Lem

theorem eqStr_iff {v : JVal} {s : Str} : v.eqStr s = true ↔ v = .str s := by
  cases v <;> simp [eqStr]

/-! ### the getters, and the opening of every parser -/

theorem asObj_ok_iff {j : JVal} {o : Obj} : asObj j = .ok o ↔ j = .obj o := by
  cases j <;> simp [asObj, jerr]

theorem getStr_ok_iff {o : Obj} {k s : Str} : getStr o k = .ok s ↔ lookup k o = some (.str s) := by
  unfold getStr tryGetStr
  cases lookup k o with
  | none => simp [jerr, bind, Except.bind]
  | some v => cases v <;> simp [jerr, bind, Except.bind, pure, Except.pure]

theorem getDict_ok_iff {o : Obj} {k : Str} {d : JVal} :
    getDict o k = .ok d ↔ lookup k o = some d ∧ d.isObj = true := by
  unfold getDict tryGetDict
  cases lookup k o with
  | none => simp [jerr, bind, Except.bind]
  | some v =>
    cases h : v.isObj <;> simp [jerr, bind, Except.bind, pure, Except.pure, h] <;> rintro rfl <;> exact h

theorem getList_ok_iff {o : Obj} {k : Str} {l : List JVal} : getList o k = .ok l ↔ lookup k o = some (.arr l) := by
  unfold getList
  cases lookup k o with
  | none => simp [jerr]
  | some v => cases v <;> simp [jerr]

theorem assertClass_ok_iff {o : Obj} {c : Str} :
    assertClass o c = .ok () ↔ lookup (L "<class>") o = some (.str c) := by
  unfold assertClass
  cases lookup (L "<class>") o with
  | none => simp [jerr]
  | some v => simp [jerr, ← eqStr_iff]

/-- every element parser opens this way: the element is a dict (`ElementHelper`) of the expected class (`assert_class`) -/
theorem asClass_ok {α} {c : Str} {k : Obj → R α} {j : JVal} {a : α}
    (h : (do let o ← asObj j; assertClass o c; k o) = .ok a) :
    ∃ o, j = .obj o ∧ lookup (L "<class>") o = some (.str c) ∧ k o = .ok a := by
  obtain ⟨o, ho, h⟩ := bind_ok h
  obtain ⟨_, hc, h⟩ := bind_ok h
  exact ⟨o, asObj_ok_iff.1 ho, assertClass_ok_iff.1 hc, h⟩

theorem asClass_eq_ok {α} {c : Str} {k : Obj → R α} {o : Obj} {a : α}
    (hc : lookup (L "<class>") o = some (.str c)) (hk : k o = .ok a) :
    (do let o ← asObj (.obj o); assertClass o c; k o) = .ok a :=
  bind_eq_ok rfl <| bind_eq_ok (assertClass_ok_iff.2 hc) hk

/-! ### what a successful parser went through -/

theorem mapM_strOf_eq_some {l : List JVal} {strs : List Str} (h : l.mapM strOf? = some strs) : l = strs.map .str := by
  induction l generalizing strs with
  | nil => cases h; rfl
  | cons a t ih =>
    rw [List.mapM_cons] at h
    cases a with
    | str s =>
      cases ht : t.mapM strOf? with
      | none => rw [ht] at h; cases h
      | some r => rw [ht] at h; cases h; rw [ih ht]; rfl
    | _ => cases h

theorem idsOfJson_ok_iff {l : List JVal} {ids : Ids} :
    idsOfJson l = .ok ids ↔ l = ids.map .str ∧ validIds ids = true := by
  unfold idsOfJson
  constructor
  · intro h
    cases hm : l.mapM strOf? with
    | none => rw [hm] at h; cases h
    | some strs =>
      rw [hm] at h
      obtain ⟨hv, rfl⟩ := mkIds_ok_iff.1 h
      exact ⟨mapM_strOf_eq_some hm, hv⟩
  · rintro ⟨rfl, hv⟩
    rw [mapM_map_pure (enc := JVal.str) (p := strOf?) (g := id) fun _ _ => rfl, List.map_id]
    exact mkIds_ok_iff.2 ⟨hv, rfl⟩

theorem parseScopeName_ok {j : JVal} {ids : Ids} (h : parseScopeName j = .ok ids) :
    ∃ o, j = .obj o ∧ lookup (L "ids") o = some (.arr (ids.map .str)) := by
  obtain ⟨o, rfl, -, h⟩ := asClass_ok h
  obtain ⟨l, hl, h⟩ := bind_ok h
  cases (idsOfJson_ok_iff.1 (ite_ok h).2).1
  exact ⟨o, rfl, getList_ok_iff.1 hl⟩

theorem parseFormal_ok {j : JVal} {f : Formal} (h : parseFormal j = .ok f) :
    ∃ o s, j = .obj o ∧ lookup (L "direction") o = some (.str s) ∧ parseFormalDirection s = .ok f.dir := by
  obtain ⟨o, rfl, -, h⟩ := asClass_ok h
  obtain ⟨_, _, h⟩ := bind_ok h
  obtain ⟨_, _, h⟩ := bind_ok h
  obtain ⟨_, _, h⟩ := bind_ok h
  obtain ⟨s, hs, h⟩ := bind_ok h
  obtain ⟨dir, hdir, h⟩ := bind_ok h
  cases pure_ok h
  exact ⟨o, s, rfl, getStr_ok_iff.1 hs, hdir⟩

/-- the list containers (`formals`, `events`, `ports`, `instances`, `bindings`) are one `do` block up to the class
    name and the element parser -/
theorem elements_ok {α} {c : Str} {p : JVal → R α} {j : JVal} {xs : List α}
    (h : (do let o ← asObj j; assertClass o c; (← getList o (L "elements")).mapM p) = .ok xs) :
    ∃ o l, j = .obj o ∧ lookup (L "elements") o = some (.arr l) ∧ l.mapM p = .ok xs := by
  obtain ⟨o, rfl, -, h⟩ := asClass_ok h
  obtain ⟨l, hl, h⟩ := bind_ok h
  exact ⟨o, l, rfl, getList_ok_iff.1 hl, h⟩

theorem parseSignature_ok {j : JVal} {ty : Ids} {fs : List Formal} (h : parseSignature j = .ok (ty, fs)) :
    ∃ o d d0, j = .obj o ∧ lookup (L "formals") o = some d ∧ parseFormals d = .ok fs ∧
      lookup (L "type_name") o = some d0 ∧ parseScopeName d0 = .ok ty := by
  obtain ⟨o, rfl, -, h⟩ := asClass_ok h
  obtain ⟨d0, hd0, h⟩ := bind_ok h
  obtain ⟨_, hty, h⟩ := bind_ok h
  obtain ⟨d, hd, h⟩ := bind_ok h
  obtain ⟨_, hfs, h⟩ := bind_ok h
  cases pure_ok h
  exact ⟨o, d, d0, rfl, (getDict_ok_iff.1 hd).1, hfs, (getDict_ok_iff.1 hd0).1, hty⟩

theorem parseEvent_ok {j : JVal} {e : Event} (h : parseEvent j = .ok e) :
    ∃ o d s, j = .obj o ∧ lookup (L "signature") o = some d ∧ parseSignature d = .ok (e.replyType, e.formals) ∧
      lookup (L "direction") o = some (.str s) ∧ parseEventDirection s = .ok e.dir ∧
      (e.dir = .out → e.replyType = [L "void"] ∧ ∀ f ∈ e.formals, f.dir ≠ .out) := by
  obtain ⟨o, rfl, -, h⟩ := asClass_ok h
  obtain ⟨_, _, h⟩ := bind_ok h
  obtain ⟨d, hd, h⟩ := bind_ok h
  obtain ⟨⟨ty, fs⟩, hsig, h⟩ := bind_ok h
  obtain ⟨s, hs, h⟩ := bind_ok h
  obtain ⟨dir, hdir, h⟩ := bind_ok h
  obtain ⟨hvoid, h⟩ := ite_ok h
  obtain ⟨hout, h⟩ := ite_ok h
  cases pure_ok h
  refine ⟨o, d, s, rfl, (getDict_ok_iff.1 hd).1, hsig, getStr_ok_iff.1 hs, hdir, fun ho => ?_⟩
  -- the two checks on out events, as they read once the direction is known
  subst ho
  simpa using And.intro hvoid hout

theorem parseInterface_ok {j : JVal} {ns : NsTree} {i : InterfaceD} (h : parseInterface j ns = .ok i) :
    ∃ o d, j = .obj o ∧ lookup (L "events") o = some d ∧ parseEvents d = .ok i.events := by
  obtain ⟨o, rfl, -, h⟩ := asClass_ok h
  obtain ⟨_, _, h⟩ := bind_ok h
  obtain ⟨_, _, h⟩ := bind_ok h
  obtain ⟨_, _, h⟩ := bind_ok h
  obtain ⟨_, _, h⟩ := bind_ok h
  obtain ⟨d, hd, h⟩ := bind_ok h
  obtain ⟨es, hes, h⟩ := bind_ok h
  cases pure_ok h
  exact ⟨o, d, rfl, (getDict_ok_iff.1 hd).1, hes⟩

theorem parseRoot_ok {j : JVal} {elems : List JVal} (h : parseRoot j = .ok elems) :
    ∃ o, j = .obj o ∧ lookup (L "elements") o = some (.arr elems) := by
  obtain ⟨o, rfl, -, h⟩ := asClass_ok h
  obtain ⟨_, _, h⟩ := bind_ok h
  obtain ⟨l, hl, h⟩ := bind_ok h
  obtain ⟨_, _, h⟩ := bind_ok h
  cases pure_ok h
  exact ⟨o, rfl, getList_ok_iff.1 hl⟩

theorem lookupW_val (k : Str) (kvs : Obj) : (lookupW k kvs).map Subtype.val = lookup k kvs := by
  unfold lookupW
  split <;> simp [*]

theorem parseNamespaceHead_elems {kvs : Obj} {name : Ids} {l : List JVal} {p}
    (h : parseNamespaceHead kvs = .ok (name, ⟨l, p⟩)) : lookup (L "elements") kvs = some (.arr l) := by
  obtain ⟨_, _, h⟩ := bind_ok h
  obtain ⟨_, _, h⟩ := bind_ok h
  obtain ⟨_, _, h⟩ := bind_ok h
  rw [← lookupW_val]
  cases hw : lookupW (L "elements") kvs with
  | none => rw [hw] at h; cases h
  | some x =>
    obtain ⟨v, _⟩ := x
    rw [hw] at h
    cases v <;> cases h
    rfl

theorem parseNamespaceHead_of {kvs : Obj} {d : JVal} {name : Ids} {l : List JVal}
    (hc : assertClass kvs (L "namespace") = .ok ()) (hd : getDict kvs (L "name") = .ok d)
    (hn : parseScopeName d = .ok name) (hl : lookup (L "elements") kvs = some (.arr l)) :
    ∃ p, parseNamespaceHead kvs = .ok (name, ⟨l, p⟩) := by
  rw [← lookupW_val] at hl
  cases hw : lookupW (L "elements") kvs with
  | none => rw [hw] at hl; cases hl
  | some x =>
    obtain ⟨v, p⟩ := x
    rw [hw] at hl
    cases hl
    -- the size witness is the one the definition builds; the last step finds it
    exact ⟨_, bind_eq_ok hc <| bind_eq_ok hd <| bind_eq_ok hn <| by
      rw [hw]
      rfl⟩

/-! ### `parse_element` by the class of the element, `parse` by its stages -/

section
variable {kvs : Obj} (ns : NsTree) (fc : FC)

theorem parseElement_noclass (h : lookup (L "<class>") kvs = none) :
    parseElement (.obj kvs) ns fc = (fc, some (.lib .DznJsonError)) := by
  rw [parseElement, h]

theorem parseElement_namespace {cls : JVal} {name : Ids} {elems : List JVal} {p}
    (h : lookup (L "<class>") kvs = some cls) (hc : cls.eqStr (L "namespace") = true)
    (hh : parseNamespaceHead kvs = .ok (name, ⟨elems, p⟩)) :
    parseElement (.obj kvs) ns fc = parseElements elems (ns.push name) fc := by
  rw [parseElement, h]
  simp only [hc, if_true, hh]

theorem parseElement_namespace_error {cls : JVal} {e : PyErr}
    (h : lookup (L "<class>") kvs = some cls) (hc : cls.eqStr (L "namespace") = true)
    (hh : parseNamespaceHead kvs = .error e) : parseElement (.obj kvs) ns fc = (fc, some e) := by
  rw [parseElement, h]
  simp only [hc, if_true, hh]

theorem parseElement_simple {cls : JVal}
    (h : lookup (L "<class>") kvs = some cls) (hc : cls.eqStr (L "namespace") = false) :
    parseElement (.obj kvs) ns fc = parseSimple cls (.obj kvs) ns fc := by
  rw [parseElement, h]
  simp only [hc, Bool.false_eq_true, if_false]

theorem parseElement_nonobj {j : JVal} (h : ∀ kvs, j ≠ .obj kvs) : parseElement j ns fc = (fc, none) := by
  cases j with
  | obj kvs => exact absurd rfl (h kvs)
  | _ => rw [parseElement]; exact nofun

/-! The class comparisons of `parse_element` and `parseSimple` are evaluated here, once. -/

theorem parseElement_component (h : lookup (L "<class>") kvs = some (.str (L "component"))) :
    parseElement (.obj kvs) ns fc = addTo fc (parseComponentLike (L "component") (.obj kvs) ns)
      fun fc c => { fc with components := fc.components ++ [c] } := by
  rw [parseElement_simple ns fc h (by decide)]
  rfl

theorem parseElement_enum (h : lookup (L "<class>") kvs = some (.str (L "enum"))) :
    parseElement (.obj kvs) ns fc = addTo fc (parseEnum (.obj kvs) ns)
      fun fc c => { fc with enums := fc.enums ++ [c] } := by
  rw [parseElement_simple ns fc h (by decide)]
  rfl

theorem parseElement_extern (h : lookup (L "<class>") kvs = some (.str (L "extern"))) :
    parseElement (.obj kvs) ns fc = addTo fc (parseExtern (.obj kvs) ns)
      fun fc c => { fc with externs := fc.externs ++ [c] } := by
  rw [parseElement_simple ns fc h (by decide)]
  rfl

theorem parseElement_foreign (h : lookup (L "<class>") kvs = some (.str (L "foreign"))) :
    parseElement (.obj kvs) ns fc = addTo fc (parseComponentLike (L "foreign") (.obj kvs) ns)
      fun fc c => { fc with foreigns := fc.foreigns ++ [c] } := by
  rw [parseElement_simple ns fc h (by decide)]
  rfl

theorem parseElement_filename (h : lookup (L "<class>") kvs = some (.str (L "file-name"))) :
    parseElement (.obj kvs) ns fc = addTo fc (parseFilename (.obj kvs))
      fun fc c => { fc with filenames := fc.filenames ++ [c] } := by
  rw [parseElement_simple ns fc h (by decide)]
  rfl

theorem parseElement_import (h : lookup (L "<class>") kvs = some (.str (L "import"))) :
    parseElement (.obj kvs) ns fc = addTo fc (parseImport (.obj kvs))
      fun fc c => { fc with imports := fc.imports ++ [c] } := by
  rw [parseElement_simple ns fc h (by decide)]
  rfl

theorem parseElement_interface (h : lookup (L "<class>") kvs = some (.str (L "interface"))) :
    parseElement (.obj kvs) ns fc = addTo fc (parseInterface (.obj kvs) ns)
      fun fc i => { fc with interfaces := fc.interfaces ++ [i], enums := fc.enums ++ i.enums,
                            subints := fc.subints ++ i.subints } := by
  rw [parseElement_simple ns fc h (by decide)]
  rfl

theorem parseElement_system (h : lookup (L "<class>") kvs = some (.str (L "system"))) :
    parseElement (.obj kvs) ns fc = addTo fc (parseSystem (.obj kvs) ns)
      fun fc c => { fc with systems := fc.systems ++ [c] } := by
  rw [parseElement_simple ns fc h (by decide)]
  rfl

theorem parseElement_subint (h : lookup (L "<class>") kvs = some (.str (L "subint"))) :
    parseElement (.obj kvs) ns fc = addTo fc (parseSubint (.obj kvs) ns)
      fun fc c => { fc with subints := fc.subints ++ [c] } := by
  rw [parseElement_simple ns fc h (by decide)]
  rfl

end

theorem addTo_of_ok {α} {r : R α} {a : α} {fc : FC} {f : FC → α → FC} (h : r = .ok a) :
    addTo fc r f = (f fc a, none) := by
  rw [h]
  rfl

theorem parse_cases (P : R FC → Prop) (j : JVal) (root : ∀ e, parseRoot j = .error e → P (.error e))
    (ok : ∀ elems fc, parseRoot j = .ok elems → parseElements elems {} {} = (fc, none) → P (.ok fc))
    (err : ∀ elems fc e, parseRoot j = .ok elems → parseElements elems {} {} = (fc, some e) → P (.error e)) :
    P (parse j) := by
  unfold parse processFrom
  cases hr : parseRoot j with
  | error e => exact root e hr
  | ok elems =>
    dsimp only
    cases hp : parseElements elems {} {} with
    | mk fc oe =>
      cases oe with
      | none => exact ok elems fc hr hp
      | some e => exact err elems fc e hr hp

end Lem
