/-
  What the build-level functions of the model do, stated once and stage by stage.  `…_ok` inverts a successful
  `do` block: the intermediate results and what is known of them (`createCppPortItf_ok` and `createConstructor_ok` keep
  only what the properties read: the target and member variable, the assignments).  Beside it stands the converse where a property
  needs it (the three success cases of `processPort`, `…_succeeds`); `get_single_instance` and
  `check_multiclient_cfg`, chains of matches, have a case principle each instead.  Failure of a stage is the
  contrapositive of its inversion; `…_error` names the one error a lookup (`getSingle`, `checkMulticlientCfg`,
  `formalCType`) fails with.
-/
import DznModel.ShellBuild
import DznProofs.Lemmas.Basic
open Py Scoping Ast AstView PortSel CppGen Support Shell

namespace Lem

theorem getSingle_cases {P : R Decl → Prop} (l : List Decl) (w : Option (Decl → Bool))
    (one : ∀ d, l = [d] → (∀ p, w = some p → p d = true) → P (.ok d)) (err : P (.error (.lib .FindError))) :
    P (getSingle l w) := by
  unfold getSingle
  cases l with
  | nil => exact err
  | cons x t =>
    cases t with
    | cons _ _ => exact err
    | nil =>
      cases w with
      | none => exact one x rfl nofun
      | some p => exact iteInduction (fun hp => one x rfl fun _ e => Option.some.inj e ▸ hp) fun _ => err

theorem getSingle_ok_iff {l : List Decl} {p : Decl → Bool} {d : Decl} :
    getSingle l (some p) = .ok d ↔ l = [d] ∧ p d = true :=
  ⟨getSingle_cases (P := fun x => x = .ok d → _) l (some p) (fun _ hl hp h => Except.ok.inj h ▸ ⟨hl, hp p rfl⟩) nofun,
    fun ⟨hl, hp⟩ => hl ▸ if_pos hp⟩

theorem getSingle_none_ok_iff {l : List Decl} {d : Decl} : getSingle l = .ok d ↔ l = [d] :=
  ⟨getSingle_cases (P := fun x => x = .ok d → _) l none (fun _ hl _ h => Except.ok.inj h ▸ hl) nofun, fun hl => hl ▸ rfl⟩

theorem getSingle_error {l : List Decl} {w : Option (Decl → Bool)} {e : PyErr} (h : getSingle l w = .error e) :
    e = .lib .FindError :=
  getSingle_cases (P := fun x => x = .error e → _) l w (fun _ _ _ => nofun) (fun h => (Except.error.inj h).symm) h

/-- `noGrant`: the granting value is empty (`[0]` on an empty list) -/
theorem checkMulticlientCfg_cases {P : R (Option McFixture) → Prop} (c : Option MultiClientCfg) (pn : Str)
    (itf : InterfaceD) (fc : FC)
    (skip : (∀ m, c = some m → pn ≠ m.portName) → P (.ok none))
    (refused : P mcErr)
    (noGrant : ∀ m, c = some m → m.grant = [] → P (.error (.internal .IndexError)))
    (fixture : ∀ m fx, c = some m → pn = m.portName →
      fx.claimEvent ∈ itf.events → fx.releaseEvent ∈ itf.events → P (.ok (some fx))) :
    P (checkMulticlientCfg c pn itf fc) := by
  unfold checkMulticlientCfg
  cases c with
  | none => exact skip nofun
  | some m =>
    refine iteInduction (fun hpn => skip fun _ hm => Option.some.inj hm ▸ hpn) fun hpn => ?_
    cases hcl : itf.events.filter (fun e => e.name = m.claimEvent) with
    | nil => exact refused
    | cons claim _ =>
      dsimp only
      cases getSingle (findFqn fc claim.replyType itf.fqn) (some isEnum) with
      | error _ => exact refused
      | ok d =>
        cases d with
        | enum en =>
          cases hg : m.grant with
          | nil => exact noGrant m rfl hg
          | cons v _ =>
            refine iteInduction (fun _ => refused) fun _ => ?_
            cases hrl : itf.events.filter (fun e => e.name = m.releaseEvent) with
            | nil => exact refused
            | cons release _ =>
              exact iteInduction (fun _ => refused) fun _ => fixture m _ rfl (Classical.not_not.mp hpn)
                (List.mem_filter.mp (hcl ▸ List.mem_cons_self : claim ∈ _)).1
                (List.mem_filter.mp (hrl ▸ List.mem_cons_self : release ∈ _)).1
        | _ => exact refused

theorem checkMulticlientCfg_ok {c : Option MultiClientCfg} {pn : Str} {itf : InterfaceD} {fc : FC} {r : Option McFixture}
    (h : checkMulticlientCfg c pn itf fc = .ok r) :
    (r = none ∧ ∀ m, c = some m → pn ≠ m.portName) ∨
    ∃ m fx, c = some m ∧ pn = m.portName ∧ r = some fx ∧ fx.claimEvent ∈ itf.events ∧ fx.releaseEvent ∈ itf.events :=
  checkMulticlientCfg_cases (P := fun x => x = .ok r → _) c pn itf fc
    (fun hne h => .inl ⟨(Except.ok.inj h).symm, hne⟩) nofun (fun _ _ _ => nofun)
    (fun m fx hc hpn hcl hrl h => .inr ⟨m, fx, hc, hpn, (Except.ok.inj h).symm, hcl, hrl⟩) h

theorem checkMulticlientCfg_error {c : Option MultiClientCfg} {pn : Str} {itf : InterfaceD} {fc : FC} {e : PyErr}
    (hg : ∀ m, c = some m → m.grant ≠ []) (h : checkMulticlientCfg c pn itf fc = .error e) :
    e = .lib .MultiClientCfgError :=
  checkMulticlientCfg_cases (P := fun x => x = .error e → _) c pn itf fc (fun _ => nofun)
    (fun h => (Except.error.inj h).symm) (fun m hm hg' => absurd hg' (hg m hm)) (fun _ _ _ _ _ _ => nofun) h

/-! ### `create_dzn_elements` -/

section
variable {cfg : Config} {fc : FC} {scope : Ids} {sems : List (Str × Sem)} {ports : List Port} {port : Port}
  {acc r : List DznPortItf × List DznPortItf} {itf : InterfaceD}

theorem mkDznPortItf_ok_iff {sem : Sem} {mc : Option McFixture} {d : DznPortItf} :
    mkDznPortItf port itf sem mc = .ok d ↔ (mc.isSome → sem = .mts) ∧ d = { port, itf, sem, mc } := by
  unfold mkDznPortItf
  cases mc with
  | none => exact ⟨fun h => ⟨nofun, (Except.ok.inj h).symm⟩, fun h => h.2 ▸ rfl⟩
  | some m =>
    cases sem with
    | mts => exact ⟨fun h => ⟨fun _ => rfl, (Except.ok.inj h).symm⟩, fun h => h.2 ▸ rfl⟩
    | sts => exact ⟨nofun, fun h => nomatch h.1 rfl⟩

/-- `d` is the descriptor `create_dzn_elements` makes of the exposed port `d.port` -/
structure Descr (cfg : Config) (fc : FC) (scope : Ids) (sems : List (Str × Sem)) (d : DznPortItf) : Prop where
  itf : getSingle (findFqn fc d.port.typeName scope) (some isInterface) = .ok (.interface d.itf)
  sem : sems.lookup d.port.name = some d.sem
  provides : d.port.dir = .provides → checkMulticlientCfg cfg.ports.multiclient d.port.name d.itf fc = .ok d.mc
  requires : d.port.dir = .requires → d.port.injected = false ∧ d.mc = none
  mts : d.mc.isSome → d.sem = .mts

theorem Descr.mc_isSome_iff {d : DznPortItf} (D : Descr cfg fc scope sems d) :
    d.mc.isSome = true ↔
      d.port.dir = .provides ∧ ∃ m, cfg.ports.multiclient = some m ∧ d.port.name = m.portName := by
  cases hdir : d.port.dir with
  | requires =>
    rw [(D.requires hdir).2]
    exact ⟨nofun, fun h => nomatch h.1⟩
  | provides =>
    rcases checkMulticlientCfg_ok (D.provides hdir) with ⟨hnone, hne⟩ | ⟨m, _, hm, hpn, hsome, -, -⟩
    · rw [hnone]
      exact ⟨nofun, fun ⟨_, m, hm, hpn⟩ => absurd hpn (hne m hm)⟩
    · rw [hsome]
      exact ⟨fun _ => ⟨rfl, m, hm, hpn⟩, fun _ => rfl⟩

theorem Descr.fixture_events {d : DznPortItf} {mc : McFixture} (D : Descr cfg fc scope sems d) (h : d.mc = some mc) :
    mc.claimEvent ∈ d.itf.events ∧ mc.releaseEvent ∈ d.itf.events := by
  cases hdir : d.port.dir with
  | requires => exact nomatch (D.requires hdir).2.symm.trans h
  | provides =>
    rcases checkMulticlientCfg_ok (D.provides hdir) with ⟨hnone, -⟩ | ⟨_, _, -, -, hsome, hcl, hrl⟩
    · exact nomatch hnone.symm.trans h
    · cases hsome.symm.trans h
      exact ⟨hcl, hrl⟩

theorem processPort_ok (h : processPort cfg fc scope sems acc port = .ok r) :
    ∃ itf, getSingle (findFqn fc port.typeName scope) (some isInterface) = .ok (.interface itf) ∧
      (port.dir = .requires ∧ port.injected = true ∧ r = acc ∨
       ∃ d, d.port = port ∧ Descr cfg fc scope sems d ∧
         (port.dir = .provides ∧ r = (acc.1 ++ [d], acc.2) ∨ port.dir = .requires ∧ r = (acc.1, acc.2 ++ [d]))) := by
  unfold processPort at h
  obtain ⟨dd, hdd, h⟩ := bind_ok h
  cases dd with
  | interface itf =>
    refine ⟨itf, hdd, ?_⟩
    dsimp only at h
    cases hdir : port.dir with
    | provides =>
      rw [if_pos hdir] at h
      obtain ⟨mc, hmc, h⟩ := bind_ok h
      cases hs : sems.lookup port.name with
      | none => rw [hs] at h; cases h
      | some s =>
        rw [hs] at h
        obtain ⟨d, hd, h⟩ := bind_ok h
        obtain ⟨hm, rfl⟩ := mkDznPortItf_ok_iff.mp hd
        exact .inr ⟨{ port, itf, sem := s, mc }, rfl, ⟨hdd, hs, fun _ => hmc, fun hr => (by rw [hdir] at hr; cases hr), hm⟩,
          .inl ⟨rfl, (pure_ok h).symm⟩⟩
    | requires =>
      rw [if_neg (by rw [hdir]; exact PortDir.noConfusion)] at h
      cases hinj : port.injected with
      | true => rw [hinj] at h; exact .inl ⟨rfl, rfl, (pure_ok h).symm⟩
      | false =>
        rw [hinj] at h
        cases hs : sems.lookup port.name with
        | none => rw [hs] at h; cases h
        | some s =>
          rw [hs] at h
          obtain ⟨d, hd, h⟩ := bind_ok h
          obtain ⟨hm, rfl⟩ := mkDznPortItf_ok_iff.mp hd
          exact .inr ⟨{ port, itf, sem := s, mc := none }, rfl,
            ⟨hdd, hs, fun hp => (by rw [hdir] at hp; cases hp), fun _ => ⟨hinj, rfl⟩, hm⟩, .inr ⟨rfl, (pure_ok h).symm⟩⟩
  | _ => cases h

theorem processPort_injected
    (hi : getSingle (findFqn fc port.typeName scope) (some isInterface) = .ok (.interface itf))
    (hd : port.dir = .requires) (hinj : port.injected = true) :
    processPort cfg fc scope sems acc port = .ok acc := by
  unfold processPort
  rw [hi, hd, hinj]
  rfl

theorem processPort_provides {mc : Option McFixture} {s : Sem}
    (hi : getSingle (findFqn fc port.typeName scope) (some isInterface) = .ok (.interface itf))
    (hd : port.dir = .provides) (hmc : checkMulticlientCfg cfg.ports.multiclient port.name itf fc = .ok mc)
    (hs : sems.lookup port.name = some s) (hm : mc.isSome → s = .mts) :
    processPort cfg fc scope sems acc port = .ok (acc.1 ++ [{ port, itf, sem := s, mc }], acc.2) := by
  unfold processPort
  rw [hi]
  dsimp only [bind, Except.bind]
  rw [if_pos hd, hmc]
  rw [hs]
  dsimp only
  rw [mkDznPortItf_ok_iff.mpr ⟨hm, rfl⟩]
  rfl

theorem processPort_requires {s : Sem}
    (hi : getSingle (findFqn fc port.typeName scope) (some isInterface) = .ok (.interface itf))
    (hd : port.dir = .requires) (hinj : port.injected = false) (hs : sems.lookup port.name = some s) :
    processPort cfg fc scope sems acc port = .ok (acc.1, acc.2 ++ [{ port, itf, sem := s, mc := none }]) := by
  unfold processPort
  rw [hi, hd, hinj]
  dsimp only [bind, Except.bind]
  rw [if_neg PortDir.noConfusion, hs]
  rfl

theorem portLoop_sound (h : ports.foldlM (processPort cfg fc scope sems) ([], []) = .ok r) :
    (∀ d ∈ r.1 ++ r.2, d.port ∈ ports ∧ Descr cfg fc scope sems d) ∧
    (∀ d ∈ r.1, d.port.dir = .provides) ∧ (∀ d ∈ r.2, d.port.dir = .requires) := by
  let P := fun acc : List DznPortItf × List DznPortItf =>
    (∀ d ∈ acc.1, d.port ∈ ports ∧ d.port.dir = .provides ∧ Descr cfg fc scope sems d) ∧
    (∀ d ∈ acc.2, d.port ∈ ports ∧ d.port.dir = .requires ∧ Descr cfg fc scope sems d)
  have inv : P r := by
    refine foldlM_inv P ?_ ⟨fun _ hd => (by cases hd), fun _ hd => (by cases hd)⟩ h
    intro acc port acc' hp hacc hstep
    obtain ⟨_, _, ⟨_, _, rfl⟩ | ⟨d, rfl, hd, ⟨hdir, rfl⟩ | ⟨hdir, rfl⟩⟩⟩ := processPort_ok hstep
    · exact hacc
    · exact ⟨List.forall_mem_append.mpr ⟨hacc.1, List.forall_mem_singleton.mpr ⟨hp, hdir, hd⟩⟩, hacc.2⟩
    · exact ⟨hacc.1, List.forall_mem_append.mpr ⟨hacc.2, List.forall_mem_singleton.mpr ⟨hp, hdir, hd⟩⟩⟩
  exact ⟨List.forall_mem_append.mpr
      ⟨fun d hd => ⟨(inv.1 d hd).1, (inv.1 d hd).2.2⟩, fun d hd => ⟨(inv.2 d hd).1, (inv.2 d hd).2.2⟩⟩,
    fun d hd => (inv.1 d hd).2.1, fun d hd => (inv.2 d hd).2.1⟩

theorem portLoop_complete (h : ports.foldlM (processPort cfg fc scope sems) acc = .ok r) :
    ∀ p ∈ ports, (∃ itf, getSingle (findFqn fc p.typeName scope) (some isInterface) = .ok (.interface itf)) ∧
      (p.dir = .provides ∨ p.injected = false → ∃ d ∈ r.1 ++ r.2, d.port = p) := by
  -- elaborated without the expected type: unifying `?Q a ?r` with the goal before `Q` is known is slow
  refine (foldlM_forall (fun p acc =>
      (∃ itf, getSingle (findFqn fc p.typeName scope) (some isInterface) = .ok (.interface itf)) ∧
      (p.dir = .provides ∨ p.injected = false → ∃ d ∈ acc.1 ++ acc.2, d.port = p)) ?_ ?_ h : _)
  · intro acc port acc' hstep
    obtain ⟨itf, hitf, ⟨hdir, hinj, rfl⟩ | ⟨d, rfl, -, ⟨-, rfl⟩ | ⟨-, rfl⟩⟩⟩ := processPort_ok hstep
    · exact ⟨⟨itf, hitf⟩, fun hexp => hexp.elim (fun hp => nomatch hdir.symm.trans hp) fun hn => nomatch hinj.symm.trans hn⟩
    · exact ⟨⟨itf, hitf⟩, fun _ => ⟨d, List.mem_append_left _ (List.mem_append_right _ (List.mem_singleton.mpr rfl)), rfl⟩⟩
    · exact ⟨⟨itf, hitf⟩, fun _ => ⟨d, List.mem_append_right _ (List.mem_append_right _ (List.mem_singleton.mpr rfl)), rfl⟩⟩
  · intro p acc port acc' ⟨hi, hd⟩ hstep
    refine ⟨hi, fun hexp => ?_⟩
    obtain ⟨x, hx, e⟩ := hd hexp
    refine ⟨x, ?_, e⟩
    obtain ⟨_, _, ⟨_, _, rfl⟩ | ⟨d, -, -, ⟨-, rfl⟩ | ⟨-, rfl⟩⟩⟩ := processPort_ok hstep
    · exact hx
    · exact (List.mem_append.mp hx).elim (fun h => List.mem_append_left _ (List.mem_append_left _ h)) (List.mem_append_right _)
    · exact (List.mem_append.mp hx).elim (List.mem_append_left _) fun h => List.mem_append_right _ (List.mem_append_left _ h)

/-- the steps of a successful `createDznElements` -/
structure Elements (cfg : Config) (fc : FC) (enc : Decl) (sems : List (Str × Sem)) (de : DznElements) : Prop where
  kind : isComponentOrSystem enc = true
  selected : cfg.ports.matchAll (((Decl.ports enc).filter (·.dir = .provides)).map (·.name)).eraseDups
    (((Decl.ports enc).filter (·.dir = .requires)).map (·.name)).eraseDups = .ok sems
  ports : (Decl.ports enc).foldlM (processPort cfg fc enc.parent.fqn sems) ([], []) = .ok (de.provides, de.requires)
  mcUsed : cfg.ports.multiclient.isSome = true → de.provides.any (·.mc.isSome) = true
  encapsulee : de.encapsulee = enc
  scope : de.scope = enc.parent.fqn
  allPorts : ∀ p i, (p, i) ∈ de.allPorts ↔
    p ∈ Decl.ports enc ∧ getSingle (findFqn fc p.typeName enc.parent.fqn) (some isInterface) = .ok (.interface i)

theorem Elements.descr {enc : Decl} {de : DznElements} (E : Elements cfg fc enc sems de) {d : DznPortItf}
    (hd : d ∈ de.provides ++ de.requires) : d.port ∈ Decl.ports enc ∧ Descr cfg fc enc.parent.fqn sems d :=
  (portLoop_sound E.ports).1 d hd

theorem createDznElements_ok {enc : Decl} {de : DznElements}
    (h : createDznElements cfg fc enc = .ok de) : ∃ sems, Elements cfg fc enc sems de := by
  unfold createDznElements at h
  obtain ⟨hk, h⟩ := ite_ok h
  obtain ⟨sems, hsems, h⟩ := bind_ok h
  obtain ⟨⟨pp, rp⟩, hr, h⟩ := bind_ok h
  obtain ⟨hmc, h⟩ := ite_ok h
  cases h
  refine ⟨sems, ?_, hsems, hr, fun hm => ?_, rfl, rfl, fun p i => ?_⟩
  · cases hk' : isComponentOrSystem enc with
    | true => rfl
    | false => exact absurd (by rw [hk']; rfl) hk
  · cases hany : pp.any (·.mc.isSome) with
    | true => rfl
    | false => exact absurd (by rw [hm, hany]; rfl) hmc
  · rw [List.mem_filterMap]
    constructor
    · rintro ⟨q, hq, h⟩
      cases hj : getSingle (findFqn fc q.typeName enc.parent.fqn) (some isInterface) with
      | error _ => rw [hj] at h; cases h
      | ok d =>
        rw [hj] at h
        cases d with
        | interface j => cases h; exact ⟨hq, hj⟩
        | _ => cases h
    · rintro ⟨hp, h⟩
      exact ⟨p, hp, by rw [h]⟩

theorem createDznElements_succeeds {enc : Decl} {pp rp : List DznPortItf} (hk : isComponentOrSystem enc = true)
    (hsel : cfg.ports.matchAll (((Decl.ports enc).filter (·.dir = .provides)).map (·.name)).eraseDups
      (((Decl.ports enc).filter (·.dir = .requires)).map (·.name)).eraseDups = .ok sems)
    (hr : (Decl.ports enc).foldlM (processPort cfg fc enc.parent.fqn sems) ([], []) = .ok (pp, rp))
    (hmc : cfg.ports.multiclient.isSome = true → pp.any (·.mc.isSome) = true) :
    ∃ de, createDznElements cfg fc enc = .ok de := by
  unfold createDznElements
  rw [hk, if_neg (by decide)]
  dsimp only
  rw [hsel]
  dsimp only [bind, Except.bind]
  rw [hr]
  dsimp only
  rw [if_neg fun hc => by rw [Bool.and_eq_true, hmc hc.1] at hc; exact absurd hc.2 (by decide)]
  exact ⟨_, rfl⟩

end

/-! ### C++ port descriptors, event parameters, the constructor -/

theorem createCppPortItf_ok {d : DznPortItf} {sn : Str} {sfns : Ids} {p : CppPortItf}
    (h : createCppPortItf d sn sfns = .ok p) :
    p.dzn = d ∧
    ((p.memberVar = none ∧ p.target = L "m_encapsulee." ++ d.port.name) ∨
     ∃ cap, (p.target = L "m_pp" ++ cap ∨ p.target = L "m_rp" ++ cap) ∧ p.memberVar.map (·.name) = some p.target) := by
  obtain ⟨cap, _, h⟩ := bind_ok h
  cases hs : d.sem with
  | sts => rw [hs] at h; cases pure_ok h; exact ⟨rfl, .inl ⟨rfl, rfl⟩⟩
  | mts =>
    rw [hs] at h
    cases hm : d.mc with
    | some m => rw [hm] at h; cases pure_ok h; exact ⟨rfl, .inr ⟨cap, .inl rfl, rfl⟩⟩
    | none =>
      rw [hm] at h
      cases pure_ok h
      refine ⟨rfl, .inr ⟨cap, ?_, rfl⟩⟩
      cases d.port.dir with
      | provides => exact .inl rfl
      | requires => exact .inr rfl

theorem createCppPortItf_dzn {d : DznPortItf} {sn : Str} {sfns : Ids} {p : CppPortItf}
    (h : createCppPortItf d sn sfns = .ok p) : p.dzn = d := (createCppPortItf_ok h).1

theorem cppPorts_dzn {ds : List DznPortItf} {sn : Str} {sfns : Ids} {ps : List CppPortItf}
    (h : ds.mapM (fun d => createCppPortItf d sn sfns) = .ok ps) : ps.map (·.dzn) = ds :=
  (map_eq_map_of_mapM (k := id) (fun _ _ hp => createCppPortItf_dzn hp) h).trans (List.map_id _)

theorem formalCType_ok_iff {fc : FC} {itf : InterfaceD} {f : Formal} {v : Str} :
    formalCType fc itf f = .ok v ↔
      ∃ e, getSingle (findFqn fc f.typeName itf.fqn) (some isExtern) = .ok (.extern e) ∧ e.value = v := by
  unfold formalCType
  constructor
  · intro h
    obtain ⟨d, hd, h⟩ := bind_ok h
    cases d with
    | extern e => exact ⟨e, hd, pure_ok h⟩
    | _ => cases h
  · rintro ⟨e, he, rfl⟩
    rw [he]
    rfl

theorem formalCType_error {fc : FC} {itf : InterfaceD} {f : Formal} {e : PyErr} (h : formalCType fc itf f = .error e) :
    e = .lib .FindError := by
  unfold formalCType at h
  rcases bind_error h with h | ⟨d, _, h⟩
  · exact getSingle_error h
  · cases d with
    | extern _ => cases h
    | _ => exact (Except.error.inj h).symm

theorem mem_mtsPorts {ps : List CppPortItf} {p : CppPortItf} : p ∈ mtsPorts ps ↔ p ∈ ps ∧ p.dzn.sem = .mts :=
  List.mem_filter.trans (and_congr_right fun _ => decide_eq_true_iff)

theorem createConstructor_ok {fc : FC} {sn : Str} {fac : Facilities} {pp rp : List CppPortItf} {sfns : Ids}
    {ctor : Constructor} {assigns : List Assign} (h : createConstructor fc sn fac pp rp sfns = .ok (ctor, assigns)) :
    ∃ inPlain outReq inMc outMc,
      ((mtsPorts pp).filter (!·.isMc)).mapM (rerouteInEvents fc) = .ok inPlain ∧
      (mtsPorts rp).mapM (rerouteOutEvents fc) = .ok outReq ∧
      ((mtsPorts pp).filter (·.isMc)).mapM (rerouteInEvents fc) = .ok inMc ∧
      ((mtsPorts pp).filter (·.isMc)).mapM (rerouteMcOutEvents fc) = .ok outMc ∧
      assigns = inPlain.flatten ++ (((mtsPorts pp).filter (!·.isMc)).map stdrefProvidesOut).flatten ++
                inMc.flatten ++ outMc.flatten ++ (((mtsPorts pp).filter (·.isMc)).map stdrefEncapsuleeOut).flatten ++
                outReq.flatten ++ ((mtsPorts rp).map stdrefRequiresIn).flatten := by
  -- no case split on `fac.origin`: the pair it selects is only projected from, and `bind_ok` sees through that
  unfold createConstructor at h
  obtain ⟨inPlain, h1, h⟩ := bind_ok h
  obtain ⟨outReq, h2, h⟩ := bind_ok h
  obtain ⟨inMc, h3, h⟩ := bind_ok h
  obtain ⟨outMc, h4, h⟩ := bind_ok h
  exact ⟨inPlain, outReq, inMc, outMc, h1, h2, h3, h4, (congrArg Prod.snd (pure_ok h)).symm⟩

/-! ### `Builder.build` -/

/-- the name of the generated struct and of its two files -/
abbrev shellName (cfg : Config) : Str := getBasename cfg.dezyneFilename ++ cfg.suffix

/-- the steps of a successful `buildShell`, with their results and the wiring IR they determine -/
structure Built (fc : FC) (cfg : Config) (s : ShellFiles) where
  enc : Decl
  de : DznElements
  helpers : Helpers
  ctor : Constructor
  found : findFqn fc cfg.encapsulee = [enc]
  elems : createDznElements cfg fc enc = .ok de
  provides : de.provides.mapM (fun d => createCppPortItf d (shellName cfg) (distillateNs cfg.pfx).1) = .ok s.ir.provides
  requires : de.requires.mapM (fun d => createCppPortItf d (shellName cfg) (distillateNs cfg.pfx).1) = .ok s.ir.requires
  helpersOk : createHelpers fc s.ir.provides (distillateNs cfg.pfx).1 (shellName cfg) = .ok (helpers, s.ir.initPort)
  ctorOk : createConstructor fc (shellName cfg) (createFacilities cfg.origin (shellName cfg)) s.ir.provides s.ir.requires
    (distillateNs cfg.pfx).1 = .ok (ctor, s.ir.ctorAssigns)
  mil : s.ir.mil = ctor.mil
  finalConstruct : s.ir.finalConstruct = (createFinalConstructFn (shellName cfg) s.ir.provides s.ir.requires).2
  origin : s.ir.origin = cfg.origin
  structName : s.ir.structName = shellName cfg
  allPorts : s.allPorts = de.allPorts
  grantIndex : s.grantIndex = (de.provides.findSome? (·.mc)).map (·.grantIndex)
  hh : s.hh.filename = shellName cfg ++ L ".hh"
  cc : s.cc.filename = shellName cfg ++ L ".cc"

theorem buildShell_ok {fc : FC} {cfg : Config} {s : ShellFiles} (h : buildShell fc cfg = .ok s) :
    Nonempty (Built fc cfg s) := by
  unfold buildShell at h
  obtain ⟨_, h⟩ := ite_ok h
  obtain ⟨enc, henc, h⟩ := bind_ok h
  obtain ⟨de, hde, h⟩ := bind_ok h
  obtain ⟨_, h⟩ := ite_ok h
  obtain ⟨pp, hpp, h⟩ := bind_ok h
  obtain ⟨rp, hrp, h⟩ := bind_ok h
  obtain ⟨⟨hs, inits⟩, hhs, h⟩ := bind_ok h
  obtain ⟨⟨ctor, assigns⟩, hca, h⟩ := bind_ok h
  cases h
  exact ⟨⟨enc, de, hs, ctor, getSingle_none_ok_iff.mp henc, hde, hpp, hrp, hhs, hca, rfl, rfl, rfl, rfl, rfl, rfl, rfl, rfl⟩⟩

theorem build_ok {fc : FC} {cfg : Config} {b : BuildResult} (h : build fc cfg = .ok b) :
    ∃ s, Nonempty (Built fc cfg s) ∧
      b = { files := [s.hh, s.cc] ++ supportFiles cfg.pfx, ir := s.ir, allPorts := s.allPorts,
            grantIndex := s.grantIndex } := by
  unfold build at h
  obtain ⟨s, hs, h⟩ := bind_ok h
  exact ⟨s, buildShell_ok hs, (pure_ok h).symm⟩

theorem Built.port_created {fc : FC} {cfg : Config} {s : ShellFiles} (B : Built fc cfg s) {p : CppPortItf}
    (hp : p ∈ s.ir.provides ++ s.ir.requires) :
    ∃ d ∈ B.de.provides ++ B.de.requires, createCppPortItf d (shellName cfg) (distillateNs cfg.pfx).1 = .ok p := by
  rcases List.mem_append.mp hp with hp | hp
  · obtain ⟨d, hd, h⟩ := mapM_mem B.provides p hp
    exact ⟨d, List.mem_append_left _ hd, h⟩
  · obtain ⟨d, hd, h⟩ := mapM_mem B.requires p hp
    exact ⟨d, List.mem_append_right _ hd, h⟩

theorem build_succeeds {fc : FC} {cfg : Config} {e : Decl} {de : DznElements} {pp rp : List CppPortItf}
    {hi : Helpers × List (Str × List Assign)} {ca : Constructor × List Assign}
    (hfound : findFqn fc cfg.encapsulee = [e]) (hde : createDznElements cfg fc e = .ok de) (hn : shellName cfg ≠ [])
    (hpp : de.provides.mapM (fun d => createCppPortItf d (shellName cfg) (distillateNs cfg.pfx).1) = .ok pp)
    (hrp : de.requires.mapM (fun d => createCppPortItf d (shellName cfg) (distillateNs cfg.pfx).1) = .ok rp)
    (hhi : createHelpers fc pp (distillateNs cfg.pfx).1 (shellName cfg) = .ok hi)
    (hca : createConstructor fc (shellName cfg) (createFacilities cfg.origin (shellName cfg)) pp rp
      (distillateNs cfg.pfx).1 = .ok ca) :
    ∃ b, build fc cfg = .ok b := by
  unfold build buildShell
  simp only [hfound, getSingle, List.isEmpty_cons, Bool.false_eq_true, if_false, bind, Except.bind, hde,
    List.isEmpty_eq_false_iff.mpr hn, hpp, hrp, hhi, hca, pure, Except.pure]
  exact ⟨_, rfl⟩

end Lem
