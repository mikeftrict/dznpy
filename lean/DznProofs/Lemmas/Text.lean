/-
  What the text properties (C17, C19, C20) share about `splitlines`, `strip`, `tbStr`, `itemLines` and
  `commentLines`: the string form of a block is its lines, each followed by a newline (`tbStr_eq`),
  `splitlines` undoes that on break-free lines (`splitlines_unlines`, `splitlines_tbStr`), and nothing
  the library writes into a line (a split piece, a rendered comment line, a number) contains a line break.
-/
import DznModel.SpecText
open Py Text

namespace Lem

theorem breakFree_append {a b : Str} (ha : Spec.breakFree a = true) (hb : Spec.breakFree b = true) :
    Spec.breakFree (a ++ b) = true := by
  rw [Spec.breakFree, List.all_append]
  exact Bool.and_eq_true_iff.mpr ⟨ha, hb⟩

theorem breakFree_cons {c : Char} {s : Str} :
    Spec.breakFree (c :: s) = true ↔ isBreak c = false ∧ Spec.breakFree s = true := by
  rw [Spec.breakFree, List.all_cons, Bool.and_eq_true, Bool.not_eq_true']
  exact Iff.rfl

theorem breakFree_lstrip {s : Str} (h : Spec.breakFree s = true) : Spec.breakFree (lstrip s) = true := by
  induction s with
  | nil => rfl
  | cons c cs ih =>
    rw [lstrip]
    exact iteInduction (motive := (Spec.breakFree · = true)) (fun _ => ih (breakFree_cons.mp h).2) fun _ => h

theorem breakFree_strip {s : Str} (h : Spec.breakFree s = true) : Spec.breakFree (strip s) = true := by
  have rev : ∀ t : Str, Spec.breakFree t.reverse = Spec.breakFree t := fun _ => List.all_reverse
  unfold strip rstrip
  rw [rev]
  apply breakFree_lstrip
  rw [rev]
  exact breakFree_lstrip h

theorem splitlines_cons_of_not_break {c : Char} {cs : Str} (h : isBreak c = false) :
    splitlines (c :: cs) = match splitlines cs with | [] => [[c]] | l :: ls => (c :: l) :: ls := by
  have hc : c ≠ '\r' := fun e => absurd (e ▸ h) (by decide)
  rw [splitlines.eq_3 c cs fun _ h1 => absurd h1 hc, h]
  rfl

theorem splitlines_line_nl {l rest : Str} (h : Spec.breakFree l = true) :
    splitlines (l ++ '\n' :: rest) = l :: splitlines rest := by
  induction l with
  | nil => rfl
  | cons c cs ih =>
    obtain ⟨hc, hcs⟩ := breakFree_cons.mp h
    rw [List.cons_append, splitlines_cons_of_not_break hc, ih hcs]

theorem splitlines_single {l : Str} (hne : l ≠ []) (h : Spec.breakFree l = true) :
    splitlines l = [l] := by
  induction l with
  | nil => exact absurd rfl hne
  | cons c cs ih =>
    obtain ⟨hc, hcs⟩ := breakFree_cons.mp h
    rw [splitlines_cons_of_not_break hc]
    cases cs with
    | nil => rfl
    | cons d ds => rw [ih (List.cons_ne_nil _ _) hcs]

theorem splitlines_unlines {ls : List Str} (h : ∀ l ∈ ls, Spec.breakFree l = true) :
    splitlines (ls.flatMap (· ++ ['\n'])) = ls := by
  induction ls with
  | nil => rfl
  | cons l r ih =>
    rw [List.flatMap_cons, List.append_assoc, List.singleton_append,
      splitlines_line_nl (h l List.mem_cons_self), ih fun x hx => h x (List.mem_cons_of_mem _ hx)]

theorem splitlines_breakFree (s : Str) : ∀ l ∈ splitlines s, Spec.breakFree l = true := by
  fun_induction splitlines s with
  | case1 => nofun
  | case2 cs ih => exact List.forall_mem_cons.mpr ⟨rfl, ih⟩
  | case3 c cs hno hb ih => exact List.forall_mem_cons.mpr ⟨rfl, ih⟩
  | case4 c cs hno hb hs ih =>
    exact List.forall_mem_cons.mpr ⟨breakFree_cons.mpr ⟨Bool.eq_false_iff.mpr hb, rfl⟩, nofun⟩
  | case5 c cs hno hb l' ls hs ih =>
    obtain ⟨h1, h2⟩ := List.forall_mem_cons.mp (hs ▸ ih)
    exact List.forall_mem_cons.mpr ⟨breakFree_cons.mpr ⟨Bool.eq_false_iff.mpr hb, h1⟩, h2⟩

theorem join_nl {ls : List Str} (hne : ls ≠ []) : join ['\n'] ls ++ ['\n'] = ls.flatMap (· ++ ['\n']) := by
  induction ls with
  | nil => exact absurd rfl hne
  | cons l r ih =>
    cases r with
    | nil => exact (List.flatMap_singleton ..).symm
    | cons l' r' =>
      rw [List.flatMap_cons, ← ih (List.cons_ne_nil _ _)]
      exact List.append_assoc ..

theorem tbStr_eq (h ls : List Str) : tbStr h ls = (h ++ ls).flatMap (· ++ ['\n']) := by
  unfold tbStr
  cases h ++ ls with
  | nil => rfl
  | cons a b => exact join_nl (List.cons_ne_nil _ _)

theorem tbStr_eq_nil (h ls : List Str) : (tbStr h ls = []) ↔ (h ++ ls = []) := by
  rw [tbStr_eq]
  cases h ++ ls <;> simp

theorem splitlines_tbStr (hd ls : List Str) (h : ∀ l ∈ hd ++ ls, Spec.breakFree l = true) :
    splitlines (tbStr hd ls) = hd ++ ls := by
  rw [tbStr_eq, splitlines_unlines h]

/-- feeding the string form of non-empty break-free lines back in reproduces the lines -/
theorem splitlines_join (ls : List Str) (hne : ls ≠ []) (h : ∀ l ∈ ls, Spec.breakFree l = true) :
    splitlines (join ['\n'] ls ++ ['\n']) = ls := by
  rw [join_nl hne, splitlines_unlines h]

theorem itemLines_of_ne_nil {s : Str} (h : s ≠ []) : itemLines s = splitlines s := by
  cases s with
  | nil => exact absurd rfl h
  | cons c cs => rfl

theorem itemLines_of_breakFree {l : Str} (h : Spec.breakFree l = true) : itemLines l = [l] := by
  cases l with
  | nil => rfl
  | cons c cs => exact splitlines_single (List.cons_ne_nil _ _) h

theorem flatMap_itemLines_id {ls : List Str} (h : ∀ l ∈ ls, Spec.breakFree l = true) :
    ls.flatMap itemLines = ls := by
  induction ls with
  | nil => rfl
  | cons l r ih =>
    rw [List.flatMap_cons, itemLines_of_breakFree (h l List.mem_cons_self),
      ih fun x hx => h x (List.mem_cons_of_mem _ hx)]
    rfl

theorem itemLines_all_breakFree (s : Str) : ∀ l ∈ itemLines s, Spec.breakFree l = true := by
  cases s with
  | nil => exact List.forall_mem_singleton.mpr rfl
  | cons c cs => exact splitlines_breakFree _

theorem flatMap_itemLines_breakFree (ss : List Str) : ∀ l ∈ ss.flatMap itemLines, Spec.breakFree l = true :=
  fun l hl =>
    have ⟨s, _, hs⟩ := List.mem_flatMap.mp hl
    itemLines_all_breakFree s l hs

/-- how `flatten` and `contentLines` treat a stringified object (a nested block, a nested comment, any
    other object): dropped when its string form is empty, split at line breaks otherwise -/
theorem flatMap_itemLines_obj (s : Str) : (if s.isEmpty then [] else [s]).flatMap itemLines = splitlines s := by
  cases s with
  | nil => rfl
  | cons c cs => exact List.flatMap_singleton ..

theorem commentLines_eq_map (ls : List Str) : commentLines ls = ls.map fun l => strip (L "// " ++ l) := rfl

theorem commentLines_breakFree (ls : List Str) (h : ∀ l ∈ ls, Spec.breakFree l = true) :
    ∀ l ∈ commentLines ls, Spec.breakFree l = true := by
  intro l hl
  obtain ⟨a, ha, rfl⟩ := List.mem_map.mp hl
  exact breakFree_strip (breakFree_append (by decide +kernel) (h a ha))

theorem boolToStr_breakFree : ∀ b : Bool, Spec.breakFree (boolToStr b) = true := by decide +kernel

theorem natToStr_breakFree (n : Nat) : Spec.breakFree (natToStr n) = true := by
  have notDigit : ∀ d : Char, isBreak d = true → d.isDigit = false := by
    intro d hd
    simp only [isBreak, Bool.or_eq_true, decide_eq_true_eq] at hd
    rcases hd with (((((((((h | h) | h) | h) | h) | h) | h) | h) | h) | h) <;> (subst h; rfl)
  simp only [natToStr, Nat.toList_repr, Spec.breakFree, List.all_eq_true]
  intro c hc
  cases hb : isBreak c with
  | false => rfl
  | true => exact absurd (Nat.isDigit_of_mem_toDigits (by decide) (by decide) hc) (by rw [notDigit c hb]; nofun)

theorem natToStr_ne_nil (n : Nat) : natToStr n ≠ [] := by
  simp only [natToStr, Nat.toList_repr]; exact Nat.toDigits_ne_nil

theorem intToStr_breakFree (i : Int) : Spec.breakFree (intToStr i) = true := by
  cases i with
  | ofNat n => exact natToStr_breakFree n
  | negSucc n => exact breakFree_append (a := ['-']) rfl (natToStr_breakFree (n + 1))

theorem intToStr_ne_nil (i : Int) : intToStr i ≠ [] := by
  cases i with
  | ofNat n => exact natToStr_ne_nil n
  | negSucc n => exact List.cons_ne_nil _ _

end Lem
