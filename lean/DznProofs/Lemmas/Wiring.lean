/-
  What the property files about the constructed shell share: constructing a shell and
  running assignments change nothing of a `World` but its handler store, `construct` succeeds exactly
  when `FacilitiesCheck` does not throw, and what registering a client does.
-/
import DznModel.Sem
open Ast Shell Sem

namespace Lem

theorem foldl_store {α} {f : World → α → World} (hf : ∀ w a, ∃ st, f w a = { w with store := st }) (l : List α)
    (w : World) : ∃ st, l.foldl f w = { w with store := st } := by
  refine List.foldlRecOn (motive := fun w' : World => ∃ st, w' = { w with store := st }) l f ⟨w.store, rfl⟩
    fun w' ⟨st, e⟩ a _ => ?_
  obtain ⟨st', e'⟩ := hf w' a
  exact ⟨st', by rw [e', e]⟩

theorem runAssigns_store (w : World) (as : List Assign) (cmv cid : Str) (il : Option InterfaceD) :
    ∃ st, runAssigns w as cmv cid il = { w with store := st } := by
  refine foldl_store (fun w a => ?_) as w
  -- whatever the lookup of the event yields
  have step : ∀ o : Option Event, ∃ st, (match o with
      | some ev => w.set (resolveSlot a.lhs cmv cid) (.ir a.rhs ev cid cmv)
      | none => w) = { w with store := st } :=
    fun o => by cases o <;> exact ⟨_, rfl⟩
  exact step _

theorem compBind_store (w : World) (skip : Option (Str × EvDir × Str)) :
    ∃ st, compBind w skip = { w with store := st } := by
  refine foldl_store (fun w ⟨p, itf⟩ => foldl_store (fun w ev => ?_) itf.events w) w.allPorts w
  let P := fun w' : World => ∃ st, w' = { w with store := st }
  exact iteInduction (motive := P) (fun _ => iteInduction (motive := P) (fun _ => ⟨_, rfl⟩) fun _ => ⟨_, rfl⟩)
    fun _ => iteInduction (motive := P) (fun _ => ⟨_, rfl⟩) fun _ => ⟨_, rfl⟩

theorem construct_ok_iff {ir : ShellIR} {ap gi pump runtime skip name extra} {w : World} :
    construct ir ap gi pump runtime skip name extra = .ok w ↔ ctorCheck ir pump runtime = none ∧
      w = runAssigns
        { compBind { ir, allPorts := ap, grantIndex := gi, instName := name, protoPump := pump,
                     fac := facInfo ir pump runtime extra } skip with
          selectors := (ir.provides.filter (·.isMc)).map (fun p => { mv := p.target, port := p.name }) }
        ir.ctorAssigns [] [] none := by
  unfold construct
  cases ctorCheck ir pump runtime with
  | none => exact ⟨fun h => ⟨rfl, (Except.ok.inj h).symm⟩, fun h => congrArg Except.ok h.2.symm⟩
  | some e => exact ⟨nofun, fun h => nomatch h.1⟩

theorem construct_error {ir : ShellIR} {ap gi pump runtime skip name extra} {e : Exc}
    (h : ctorCheck ir pump runtime = some e) : construct ir ap gi pump runtime skip name extra = .error e := by
  unfold construct
  rw [h]

theorem construct_isOk {ir : ShellIR} {ap gi pump runtime skip name extra} :
    (∃ w, construct ir ap gi pump runtime skip name extra = .ok w) ↔ ctorCheck ir pump runtime = none :=
  ⟨fun ⟨_, h⟩ => (construct_ok_iff.mp h).1, fun h => ⟨_, construct_ok_iff.mpr ⟨h, rfl⟩⟩⟩

theorem construct_fields {ir : ShellIR} {ap gi pump runtime skip name extra} {w : World}
    (h : construct ir ap gi pump runtime skip name extra = .ok w) :
    ∃ st, w = { ir, allPorts := ap, grantIndex := gi, instName := name, protoPump := pump,
                fac := facInfo ir pump runtime extra, store := st,
                selectors := (ir.provides.filter (·.isMc)).map (fun p => { mv := p.target, port := p.name }) } := by
  obtain ⟨-, rfl⟩ := construct_ok_iff.mp h
  obtain ⟨st, e⟩ := compBind_store
    { ir, allPorts := ap, grantIndex := gi, instName := name, protoPump := pump, fac := facInfo ir pump runtime extra } skip
  rw [e]
  exact runAssigns_store _ _ _ _ _

section
variable {w : World} {p : CppPortItf} {id : Str} {sel : Selector}

/-- `ProvidesMultiClient<Port>(id)` for a client registered before: nothing happens -/
theorem registerClient_known (hs : w.selector p.target = some sel) (hid : id ≠ []) (hm : id ∈ sel.clients) :
    registerClient w p id = (w, none) := by
  unfold registerClient
  rw [hs]
  exact (if_neg (mt List.isEmpty_iff.mp hid)).trans (if_pos (List.contains_iff_mem.mpr hm))

theorem registerClient_new (hs : w.selector p.target = some sel) (hid : id ≠ []) (hn : id ∉ sel.clients)
    (hnf : sel.finalConstructed = false) {as : List Assign}
    (has : ((w.ir.initPort.find? (·.1 = p.name)).map (·.2)).getD [] = as) :
    registerClient w p id =
      (runAssigns (w.setSelector { sel with clients := sel.clients ++ [id] }) as p.target id (some p.dzn.itf), none) := by
  subst has
  unfold registerClient
  rw [hs]
  exact (if_neg (mt List.isEmpty_iff.mp hid)).trans
    ((if_neg (mt List.contains_iff_mem.mp hn)).trans (if_neg (by rw [hnf]; nofun)))

theorem registerClient_locked (hs : w.selector p.target = some sel) (hid : id ≠ []) (hn : id ∉ sel.clients)
    (hf : sel.finalConstructed = true) :
    registerClient w p id =
      (w, some (.runtimeError (L "Can not allocate a ClientPort entry when final constructed."))) := by
  unfold registerClient
  rw [hs]
  exact (if_neg (mt List.isEmpty_iff.mp hid)).trans ((if_neg (mt List.contains_iff_mem.mp hn)).trans (if_pos hf))

end

end Lem
