/-
  `NamespaceIds`: the constructor check, and the two notations read back — `split` undoes `join` on pieces
  that do not contain the separator, which identifiers never do.
-/
import DznModel.Scoping
open Py Scoping

namespace Lem

theorem mkIds_ok_iff {l ids : Ids} : mkIds l = .ok ids ↔ validIds l = true ∧ l = ids := by
  unfold mkIds; cases validIds l <;> simp

theorem validId_not_mem {a : Str} (h : validId a = true) {c : Char} (hc : isIdChar c = false) : c ∉ a := by
  cases a with
  | nil => nofun
  | cons d ds =>
    simp only [validId, Bool.and_eq_true, List.all_eq_true] at h
    intro hm
    rcases List.mem_cons.mp hm with rfl | hm
    · simp [isIdChar, h.1] at hc
    · rw [h.2 c hm] at hc; cases hc

theorem mem_join {sep : Str} {l : List Str} {c : Char} (h : c ∈ join sep l) :
    c ∈ sep ∨ ∃ x ∈ l, c ∈ x := by
  induction l with
  | nil => cases h
  | cons a r ih =>
    cases r with
    | nil => exact .inr ⟨a, List.mem_cons_self, h⟩
    | cons b r' =>
      rcases List.mem_append.mp h with h | h
      · rcases List.mem_append.mp h with h | h
        · exact .inr ⟨a, List.mem_cons_self, h⟩
        · exact .inl h
      · exact (ih h).imp_right fun ⟨x, hx, hc⟩ => ⟨x, List.mem_cons_of_mem _ hx, hc⟩

theorem splitChar_no_sep {sep : Char} {a : Str} (cur : Str) (h : sep ∉ a) :
    splitChar sep a cur = [cur.reverse ++ a] := by
  induction a generalizing cur with
  | nil => simp [splitChar]
  | cons c cs ih =>
    obtain ⟨hc, hcs⟩ := List.ne_and_not_mem_of_not_mem_cons h
    rw [splitChar, if_neg (Ne.symm hc), ih _ hcs]
    simp

theorem splitChar_append_sep (sep : Char) (a b cur : Str) :
    splitChar sep (a ++ sep :: b) cur = splitChar sep a cur ++ splitChar sep b [] := by
  induction a generalizing cur with
  | nil => simp [splitChar]
  | cons c cs ih =>
    rw [List.cons_append, splitChar, splitChar]
    by_cases hc : c = sep
    · rw [if_pos hc, if_pos hc, ih]; rfl
    · rw [if_neg hc, if_neg hc, ih]

theorem splitChar_join {sep : Char} {a : Str} {r : List Str} (h : ∀ x ∈ a :: r, sep ∉ x) :
    splitChar sep (join [sep] (a :: r)) [] = a :: r := by
  induction r generalizing a with
  | nil => exact splitChar_no_sep [] (h a List.mem_cons_self)
  | cons b r' ih =>
    obtain ⟨ha, hr⟩ := List.forall_mem_cons.mp h
    show splitChar sep (a ++ [sep] ++ join [sep] (b :: r')) [] = _
    rw [List.append_assoc, List.singleton_append, splitChar_append_sep, splitChar_no_sep [] ha, ih hr]
    rfl

theorem splitColons_no_sep {a : Str} (cur : Str) (h : hasColons a = false) :
    splitColons a cur = [cur.reverse ++ a] := by
  fun_induction hasColons a generalizing cur with
  | case1 => simp [splitColons]
  | case2 => cases h
  | case3 c cs hne ih =>
    rw [splitColons.eq_3 _ _ _ hne, ih _ h]
    simp

theorem hasColons_eq_false {a : Str} (h : ':' ∉ a) : hasColons a = false := by
  induction a with
  | nil => rfl
  | cons c cs ih =>
    obtain ⟨hc, hcs⟩ := List.ne_and_not_mem_of_not_mem_cons h
    rw [hasColons.eq_3 _ _ fun _ e1 _ => hc e1.symm, ih hcs]

theorem splitColons_append_sep {a b cur : Str} (h : ':' ∉ a) :
    splitColons (a ++ ':' :: ':' :: b) cur = (cur.reverse ++ a) :: splitColons b [] := by
  induction a generalizing cur with
  | nil => simp [splitColons]
  | cons c cs ih =>
    obtain ⟨hc, hcs⟩ := List.ne_and_not_mem_of_not_mem_cons h
    rw [List.cons_append, splitColons.eq_3 _ _ _ fun _ e1 _ => hc e1.symm, ih hcs]
    simp

theorem splitColons_join {a : Str} {r : List Str} (h : ∀ x ∈ a :: r, ':' ∉ x) :
    splitColons (join [':', ':'] (a :: r)) [] = a :: r := by
  induction r generalizing a with
  | nil => exact splitColons_no_sep [] (hasColons_eq_false (h a List.mem_cons_self))
  | cons b r' ih =>
    obtain ⟨ha, hr⟩ := List.forall_mem_cons.mp h
    show splitColons (a ++ [':', ':'] ++ join [':', ':'] (b :: r')) [] = _
    rw [List.append_assoc, List.cons_append, List.singleton_append, splitColons_append_sep ha, ih hr]
    rfl

end Lem
