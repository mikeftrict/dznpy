/-
  C19 — User text rendered as a comment can never become code.  (property theorems, text part;
  the generated-files clause `files_code_independent` lives in DznProofs/C19Files.lean)
-/
import DznProofs.Lemmas.Text
import DznProofs.C17
open Py Text Lem

namespace C19

theorem lstrip_append (a b : Str) :
    lstrip (a ++ b) = if a.all isSpace then lstrip b else lstrip a ++ b := by
  induction a with
  | nil => simp
  | cons c cs ih =>
    simp only [List.cons_append, lstrip, List.all_cons]
    by_cases hc : isSpace c = true
    · simp [hc, ih]
    · simp [hc]

/-- the rendering of one line: `strip("// " ++ l)` is `//` for a blank line and `// ` followed by
    the text without trailing whitespace otherwise — leading whitespace and every other
    character of the user's text are kept, and the line starts with `//` -/
theorem line_spec (l : Str) : strip (L "// " ++ l) = Spec.commentLine l := by
  -- `lstrip` stops at the first `/`; what is left is `rstrip`, i.e. `lstrip` of the reversed string
  show rstrip (L "// " ++ l) = _
  unfold rstrip Spec.commentLine isBlank
  rw [List.reverse_append, lstrip_append, List.all_reverse]
  cases l.all isSpace with
  | true => rfl
  | false => simp [rstrip]

/-- **C19 (prefix)**: every rendered line is `//` or `// ` + the corresponding source line -/
theorem prefix_spec (ls : List Str) : commentLines ls = ls.map Spec.commentLine :=
  (commentLines_eq_map ls).trans (List.map_congr_left fun l _ => line_spec l)

/-- the string form of a comment is the specified rendering -/
theorem render_spec (ls : List Str) : commentStr ls = Spec.commentSpec ls := by
  rw [commentStr, tbStr_eq, prefix_spec]
  rfl

/-- every rendered line starts with `//`: no part of the user's text can become code -/
theorem starts_with_slashes (ls : List Str) : ∀ r ∈ commentLines ls, (L "//").isPrefixOf r = true := by
  rw [prefix_spec]
  intro r hr
  obtain ⟨l, _, rfl⟩ := List.mem_map.mp hr
  unfold Spec.commentLine
  cases isBlank l <;> rfl

/-- …and it holds for whatever content is put into the comment: the rendered lines are in
    one-to-one correspondence with the depth-first pieces of the content -/
theorem content_rendering (c : Content) (h : Spec.wfContent c = true) :
    commentStr (contentLines c) = Spec.commentSpec (Spec.piecesTop c) := by
  rw [render_spec, C17.lines_eq_pieces c h]

/-- line count and order preserved -/
theorem length_preserved (ls : List Str) : (commentLines ls).length = ls.length := by
  simp [prefix_spec]

example : commentStr [L "a  ", [], L "  b", L " "] = L "// a\n//\n//   b\n//\n" := by decide +kernel

end C19
