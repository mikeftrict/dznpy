/-
  C11 — The generated multi-client support under all thread interleavings.   (**partial**)
  Proved over the interleaving model DznModel.Conc for any number of client threads and runs of
  any length (inductive invariants).  Not exhibited by the model: the C++ memory model, std::mutex,
  the real dzn::pump (tied by TSan runs of the real shell with a threaded pump).
-/
import DznModel.Shell
import DznProofs.Lemmas.Conc
open Conc

namespace C11

def lockedPhase (p : Pc) : Bool :=
  p = .selLocked || p = .selWritten || p = .deselLocked || p = .deselWritten

/-- the mutual-exclusion invariant: a client owns the lock exactly while it is inside
    Select/Deselect, the dispatcher exactly while it delivers an out-event -/
structure MInv (s : State) : Prop where
  client : ∀ c, lockedPhase (pcOf s c) = true ↔ s.lock = some (.client c)
  disp : s.dpc ≠ .idle ↔ s.lock = some .dispatcher
  outHead : s.dpc ≠ .idle → ∃ rest, s.queue = .out :: rest

theorem minv_init (n outs : Nat) : MInv (init n outs) where
  client _ := iff_of_false Bool.false_ne_true nofun
  disp := iff_of_false (absurd rfl) nofun
  outHead := absurd rfl

theorem MInv.frame {s t : State} (h : MInv s)
    (hp : ∀ d, lockedPhase (t.pcs d) = lockedPhase (s.pcs d)) (hl : t.lock = s.lock) (hd : t.dpc = s.dpc)
    (hq : s.dpc ≠ .idle → s.queue <+: t.queue) : MInv t where
  client d := by rw [hp, hl]; exact h.client d
  disp := by rw [hl, hd]; exact h.disp
  outHead hne := by
    rw [hd] at hne
    obtain ⟨rest, hr⟩ := h.outHead hne
    obtain ⟨l, hl⟩ := hq hne
    exact ⟨rest ++ l, by rw [← hl, hr]; rfl⟩

theorem MInv.acquire {s : State} {c : Client} {q : Pc} (h : MInv s) (hl : s.lock = none)
    (hq : lockedPhase q = true) : MInv { setPc s c q with lock := some (.client c) } where
  client d := by
    show lockedPhase (if d = c then q else s.pcs d) = true ↔ some (Thread.client c) = some (.client d)
    by_cases hd : d = c
    · simp [hd, hq]
    · simp [hd, Ne.symm hd, h.client d, hl]
  disp := by
    show s.dpc ≠ .idle ↔ some (Thread.client c) = some .dispatcher
    simpa [hl] using h.disp
  outHead := h.outHead

theorem MInv.release {s : State} {c : Client} {q : Pc} (h : MInv s) (hl : s.lock = some (.client c))
    (hq : lockedPhase q = false) : MInv { setPc s c q with lock := none } where
  client d := by
    show lockedPhase (if d = c then q else s.pcs d) = true ↔ none = some (Thread.client d)
    by_cases hd : d = c
    · simp [hd, hq]
    · simp [hd, Ne.symm hd, h.client d, hl]
  disp := by
    show s.dpc ≠ .idle ↔ none = some Thread.dispatcher
    simpa [hl] using h.disp
  outHead := h.outHead

theorem minv_transition {asIs : Bool} {s t : State} {a : Action} (h : MInv s)
    (ht : Transition asIs s a t) : MInv t := by
  cases ht with
  | postClaim _ hp | postRelease _ hp =>
    exact h.frame (setPc_invisible lockedPhase hp rfl) rfl rfl fun _ => List.prefix_append ..
  | raiseOut => exact h.frame (fun _ => rfl) rfl rfl fun _ => List.prefix_append ..
  | claimStale hd | releaseStale hd => exact h.frame (fun _ => rfl) rfl rfl (absurd hd)
  | claimDenied hd _ hw | claimGranted hd _ hw | releaseDone hd _ hw =>
    exact h.frame (setPc_invisible lockedPhase hw rfl) rfl rfl (absurd hd)
  | outLock hd hq hl =>
    exact {
      client := fun d => (h.client d).trans (by rw [hl]; exact iff_of_false nofun nofun)
      disp := iff_of_true nofun rfl
      outHead := fun _ => ⟨_, hq⟩ }
  | outDeliver hd =>
    exact { client := h.client, disp := by simpa [hd] using h.disp, outHead := fun _ => h.outHead (by simp [hd]) }
  | outUnlock hd =>
    have hl : s.lock = some .dispatcher := h.disp.mp (by rw [hd]; nofun)
    exact {
      client := fun d => (h.client d).trans (by rw [hl]; exact iff_of_false nofun nofun)
      disp := iff_of_false (fun hne => hne rfl) nofun
      outHead := fun hne => absurd rfl hne }
  | selLock _ _ hl | deselLock _ _ hl => exact h.acquire hl rfl
  | selWrite _ hp | deselWrite _ hp =>
    exact h.frame (setPc_invisible lockedPhase hp rfl) rfl rfl fun _ => List.prefix_rfl
  | selUnlock _ hp | deselUnlock _ hp => exact h.release ((h.client _).mp (by rw [pcOf, hp]; rfl)) rfl

/-- **mutual exclusion is inductive**: every enabled step of every thread preserves the invariant,
    whatever the schedule and the number of threads -/
theorem minv_step (asIs : Bool) (s : State) (a : Action) (h : MInv s) (he : enabled s a = true) :
    MInv (step asIs s a) :=
  minv_transition h (step_transition asIs he)

/-- mutual exclusion holds in every reachable state, for every schedule -/
theorem mutex_reachable (asIs : Bool) (n outs : Nat) (acts : List Action) :
    MInv (run asIs (init n outs) acts) :=
  run_induction (minv_step asIs) acts (minv_init n outs)

/-- every write of the selection and every read for a delivery is done by the thread that owns
    the lock at that moment -/
theorem selection_access_under_lock (asIs : Bool) (s : State) (a : Action) (h : MInv s)
    (he : enabled s a = true) :
    ((step asIs s a).selected ≠ s.selected → ∃ c, a = .clientStep c ∧ s.lock = some (.client c)) ∧
    ((step asIs s a).deliveries ≠ s.deliveries → a = .dispatch ∧ s.lock = some .dispatcher) := by
  have ht := step_transition asIs he
  generalize step asIs s a = t at ht
  cases ht with
  | selWrite _ hp | deselWrite _ hp =>
    exact ⟨fun _ => ⟨_, rfl, (h.client _).mp (by rw [pcOf, hp]; rfl)⟩, fun hne => absurd rfl hne⟩
  | outDeliver hd => exact ⟨fun hne => absurd rfl hne, fun _ => ⟨rfl, h.disp.mp (by simp [hd])⟩⟩
  | _ => exact ⟨fun hne => absurd rfl hne, fun hne => absurd rfl hne⟩

/-! ### MutexWrapped: the lock-and-data handle releases the lock on reset and at scope exit -/

/-- at most one handle owns the lock: acquiring is impossible while it is locked -/
theorem acquire_exclusive (m : Mutex) (h : m.locked = true) : acquire m = none := by simp [acquire, h]

theorem acquire_locks (m : Mutex) (m' : Mutex) (hd : Handle) (h : acquire m = some (m', hd)) :
    m.locked = false ∧ m'.locked = true ∧ hd.owns = true := by
  cases hl : m.locked <;> simp [acquire, hl] at h
  obtain ⟨rfl, rfl⟩ := h
  exact ⟨rfl, rfl, rfl⟩

/-- **RAII**: after an explicit reset, and after scope exit, the lock is free; a second reset (or the
    deleter running after a reset) is harmless -/
theorem raii (m : Mutex) (hd : Handle) (ho : hd.owns = true) :
    (hd.reset m).1.locked = false ∧ (hd.scopeExit m).locked = false ∧
    ((hd.reset m).2.reset (hd.reset m).1 = hd.reset m) ∧
    ((hd.reset m).2.scopeExit (hd.reset m).1).locked = false := by
  simp [Handle.reset, Handle.scopeExit, ho]

/-! ### no deadlock -/

/-- clients outside the configured range never move; a blocked client has its call in the queue -/
structure WInv (s : State) : Prop where
  range : ∀ c, s.n ≤ c → s.pcs c = .idle
  wclaim : ∀ c, s.pcs c = .waitClaim → Call.claim c ∈ s.queue
  wrelease : ∀ c, s.pcs c = .waitRelease → Call.release c ∈ s.queue

theorem winv_init (n outs : Nat) : WInv (init n outs) where
  range _ _ := rfl
  wclaim _ := nofun
  wrelease _ := nofun

theorem WInv.lt {s : State} {c : Client} (h : WInv s) (hp : s.pcs c ≠ .idle) : c < s.n :=
  Nat.lt_of_not_le fun hle => hp (h.range c hle)

theorem WInv.mono {s t : State} (h : WInv s) (hn : t.n = s.n) (hp : t.pcs = s.pcs)
    (hq : ∀ k ∈ s.queue, k ∈ t.queue) : WInv t where
  range d hd := by rw [hp]; exact h.range d (hn ▸ hd)
  wclaim d hd := hq _ (h.wclaim d (hp ▸ hd))
  wrelease d hd := hq _ (h.wrelease d (hp ▸ hd))

theorem WInv.move {s t : State} {c : Client} {q : Pc} (h : WInv s) (hn : t.n = s.n)
    (hp : t.pcs = (setPc s c q).pcs) (hc : c < s.n) (hq : ∀ k ∈ s.queue, k ∈ t.queue)
    (hwc : q = .waitClaim → .claim c ∈ t.queue) (hwr : q = .waitRelease → .release c ∈ t.queue) :
    WInv t where
  range d hd := by
    rw [hn] at hd
    rw [hp, pcs_setPc, if_neg (Nat.ne_of_gt (Nat.lt_of_lt_of_le hc hd))]; exact h.range d hd
  wclaim d hd := by
    rw [hp, pcs_setPc] at hd
    by_cases hdc : d = c
    · rw [if_pos hdc] at hd; exact hdc ▸ hwc hd
    · rw [if_neg hdc] at hd; exact hq _ (h.wclaim d hd)
  wrelease d hd := by
    rw [hp, pcs_setPc] at hd
    by_cases hdc : d = c
    · rw [if_pos hdc] at hd; exact hdc ▸ hwr hd
    · rw [if_neg hdc] at hd; exact hq _ (h.wrelease d hd)

theorem WInv.pop {s t : State} {k : Call} (h : WInv s) (hn : t.n = s.n) (hp : t.pcs = s.pcs)
    (hq : s.queue = k :: t.queue) (hkc : ∀ d, k = .claim d → s.pcs d ≠ .waitClaim)
    (hkr : ∀ d, k = .release d → s.pcs d ≠ .waitRelease) : WInv t where
  range d hd := by rw [hp]; exact h.range d (hn ▸ hd)
  wclaim d hd := by
    have hd' : s.pcs d = .waitClaim := hp ▸ hd
    have := h.wclaim d hd'
    rw [hq] at this
    exact (List.mem_cons.mp this).resolve_left fun e => hkc d e.symm hd'
  wrelease d hd := by
    have hd' : s.pcs d = .waitRelease := hp ▸ hd
    have := h.wrelease d hd'
    rw [hq] at this
    exact (List.mem_cons.mp this).resolve_left fun e => hkr d e.symm hd'

theorem WInv.serve {s t : State} {c : Client} {q : Pc} {k : Call} (h : WInv s) (hn : t.n = s.n)
    (hp : t.pcs = (setPc s c q).pcs) (hq : s.queue = k :: t.queue) (hk : k = .claim c ∨ k = .release c)
    (hi : s.pcs c ≠ .idle) (hqc : q ≠ .waitClaim) (hqr : q ≠ .waitRelease) : WInv t :=
  (h.move (t := setPc s c q) rfl rfl (h.lt hi) (fun _ => id) (absurd · hqc) (absurd · hqr)).pop hn hp hq
    -- the head of the queue is a call of `c`, and `c` is not blocked any more
    (fun d e => by
      rcases hk with rfl | rfl
      · cases e; rw [pcs_setPc, if_pos rfl]; exact hqc
      · cases e)
    (fun d e => by
      rcases hk with rfl | rfl
      · cases e
      · cases e; rw [pcs_setPc, if_pos rfl]; exact hqr)

theorem winv_transition {asIs : Bool} {s t : State} {a : Action} (h : WInv s) (hm : MInv s)
    (ht : Transition asIs s a t) : WInv t := by
  cases ht with
  | postClaim hc => exact h.move rfl rfl hc (fun _ => List.mem_append_left _) (fun _ => by simp) nofun
  | postRelease hc => exact h.move rfl rfl hc (fun _ => List.mem_append_left _) nofun (fun _ => by simp)
  | raiseOut => exact h.mono rfl rfl fun _ => List.mem_append_left _
  | claimStale _ hq hw => exact h.pop rfl rfl hq (fun | _, rfl => hw) nofun
  | releaseStale _ hq hw => exact h.pop rfl rfl hq nofun (fun | _, rfl => hw)
  | claimDenied _ hq hw | claimGranted _ hq hw =>
    exact h.serve rfl rfl hq (.inl rfl) (by simp [hw]) nofun nofun
  | releaseDone _ hq hw => exact h.serve rfl rfl hq (.inr rfl) (by simp [hw]) nofun nofun
  | outLock | outDeliver => exact h.mono rfl rfl fun _ => id
  | outUnlock hd =>
    -- the head of the queue is the out-event being delivered: dropping it removes no client call
    obtain ⟨rest, hr⟩ := hm.outHead (by simp [hd])
    exact h.pop (k := .out) rfl rfl (by rw [hr]; rfl) nofun nofun
  | selLock hc | selWrite hc | selUnlock hc | deselLock hc | deselWrite hc | deselUnlock hc =>
    exact h.move rfl rfl hc (fun _ => id) nofun nofun

theorem winv_step (asIs : Bool) (s : State) (a : Action) (h : WInv s) (hm : MInv s) (he : enabled s a = true) :
    WInv (step asIs s a) ∧ (step asIs s a).n = s.n :=
  have ht := step_transition asIs he
  ⟨winv_transition h hm ht, ht.n_eq⟩

theorem enabled_dispatch_of_ne_idle {s : State} (h : s.dpc ≠ .idle) : enabled s .dispatch = true := by
  rw [enabled]
  cases hd : s.dpc with
  | idle => exact absurd hd h
  | outLocked | outDelivered => rfl

theorem enabled_clientStep_of_locked {s : State} {c : Client} (hc : c < s.n)
    (h : lockedPhase (s.pcs c) = true) : enabled s (.clientStep c) = true := by
  rw [enabled, decide_eq_true hc, pcOf]
  revert h
  cases s.pcs c with
  | selLocked | selWritten | deselLocked | deselWritten => exact fun _ => rfl
  | _ => exact fun h => Bool.noConfusion h

/-- **no deadlock**: in every state satisfying the invariants (hence in every reachable state) with
    at least one client thread, some thread can take a step — the single lock is never held across
    a blocking operation -/
theorem no_deadlock (s : State) (hm : MInv s) (hw : WInv s) (hn : 0 < s.n) :
    ∃ a ∈ allActions s, enabled s a = true := by
  suffices ∃ a, enabled s a = true from this.imp fun a he => ⟨enabled_mem he, he⟩
  cases hl : s.lock with
  | some th =>
    -- whoever owns the lock can continue
    cases th with
    | dispatcher => exact ⟨.dispatch, enabled_dispatch_of_ne_idle (hm.disp.mpr hl)⟩
    | client c =>
      have hp : lockedPhase (s.pcs c) = true := (hm.client c).mpr hl
      exact ⟨.clientStep c, enabled_clientStep_of_locked (hw.lt fun e => by rw [e] at hp; cases hp) hp⟩
  | none =>
    have hd : s.dpc = .idle := Decidable.not_not.mp fun hne => by cases hl.symm.trans (hm.disp.mp hne)
    cases hq : s.queue with
    | cons k rest => exact ⟨.dispatch, by cases k <;> simp [enabled, hd, hq, hl]⟩
    | nil =>
      -- nobody is blocked on the dispatcher, so client 0 can move
      cases hp : s.pcs 0 with
      | idle => exact ⟨.postClaim 0, by simp [enabled, hn, hp]⟩
      | holding => exact ⟨.postRelease 0, by simp [enabled, hn, hp]⟩
      | waitClaim => have := hw.wclaim 0 hp; rw [hq] at this; cases this
      | waitRelease => have := hw.wrelease 0 hp; rw [hq] at this; cases this
      | _ => exact ⟨.clientStep 0, by simp [enabled, hn, hp, hl]⟩

def raceSchedule : List Action :=
  [.postClaim 0, .dispatch, .clientStep 0, .clientStep 0, .clientStep 0,      -- 0 holds
   .postRelease 0, .dispatch,                                                  -- 0 released (Deselect pending)
   .postClaim 1, .dispatch, .clientStep 1, .clientStep 1, .clientStep 1,      -- 1 granted, selected, holds
   .clientStep 0, .clientStep 0, .clientStep 0,                                -- 0's delayed Deselect
   .raiseOut, .dispatch, .dispatch, .dispatch]                                 -- out-event while 1 holds

/-- **the recorded finding D-9 as a race between well-behaved clients, proved**: client 0 claims,
    holds and releases; before it runs its Deselect, client 1 claims, is granted and selects; then
    client 0's delayed Deselect clears client 1's selection and an out-event raised while client 1
    holds the claim reaches nobody.  With the specified Deselect the same schedule delivers to
    client 1. -/
theorem holder_witness :
    (run true (init 2 1) raceSchedule).deliveries = [(none, [1])] ∧
    deliveriesOk (run true (init 2 1) raceSchedule) = false ∧
    (run false (init 2 1) raceSchedule).deliveries = [(some 1, [1])] ∧
    deliveriesOk (run false (init 2 1) raceSchedule) = true := by
  decide

/-- **the step order of the per-client wrappers is the one the interleaving model is built on**:
    the rendered release wrapper forwards the release to the component first and deselects
    afterwards; the rendered claim wrapper forwards the claim and selects only on the granting reply.
    (The correspondence check compares these texts byte for byte with the generator's output.) -/
theorem wrapper_order (lhs : Shell.Slot) (mv ev cev : Str) (ps : List Shell.LParam) (args : List Str) (grant : Str) :
    (∃ pre, Shell.Assign.render { lhs, rhs := .mcRelease mv ev cev ps args } =
        pre ++ (L "    " ++ mv ++ L ".Arbitered().in." ++ cev ++ L "(" ++ Py.join (L ", ") args ++ L ");\n" ++
          L "    " ++ mv ++ L ".Deselect(identifier);\n" ++ L "};")) ∧
    (∃ pre, Shell.Assign.render { lhs, rhs := .mcClaim mv ev ps args grant } =
        pre ++ (L "    const auto r = " ++ mv ++ L ".Arbitered().in." ++ ev ++ L "(" ++ Py.join (L ", ") args ++ L ");\n" ++
          L "    if (r == " ++ grant ++ L ") " ++ mv ++ L ".Select(identifier);\n" ++ L "    return r;\n" ++ L "};")) := by
  -- the rendered text is `head ++ piece ++ … ++ piece` bracketed to the left, `head` being the opening
  -- line `lhs = [&, identifier](params) {`: bracket the right-hand side likewise and `pre` is `head`
  constructor
  · exact ⟨_, by simp only [← List.append_assoc]; rfl⟩
  · exact ⟨_, by simp only [← List.append_assoc]; rfl⟩

end C11
