/-
  C12 — Building never alters its inputs and is independent of earlier builds.
  Honest scope (DESIGN §6 C12): the model of the generator is a pure function, so history freedom
  holds of it by construction; what the theorems add is (i) the explicit builder state machine whose
  only state — the recipe of the last build — is never read, and (ii) the stand-alone support files.
  That the *implementation* keeps no other state and mutates nothing is the subject of the tie
  (deep snapshots, fresh-interpreter comparison).
-/
import DznModel.ShellBuild
import DznProofs.Lemmas.Build
open Py Ast Shell Support Lem

namespace C12

/-- the `Builder` object: its only attribute is the recipe of the last build -/
structure BuilderObj where
  lastRecipe : Option (FC × Config) := none

/-- `builder.build(cfg)`: stores the recipe, returns the files (or raises) -/
def builderStep (b : BuilderObj) (req : FC × Config) : BuilderObj × R BuildResult :=
  match build req.1 req.2 with
  | .ok r => ({ lastRecipe := some req }, .ok r)
  | .error e => (b, .error e)

def runHistory (b : BuilderObj) : List (FC × Config) → BuilderObj × List (R BuildResult)
  | [] => (b, [])
  | r :: rs =>
    let (b', o) := builderStep b r
    let (b'', os) := runHistory b' rs
    (b'', o :: os)

theorem builderStep_snd (b : BuilderObj) (req : FC × Config) : (builderStep b req).2 = build req.1 req.2 := by
  unfold builderStep
  cases build req.1 req.2 <;> rfl

/-- **history freedom**: whatever sequence of builds (successful or failed, on the same or other
    models) precedes it, a build returns what a first build in a fresh state returns -/
theorem history_free (hist : List (FC × Config)) (req : FC × Config) (b : BuilderObj) :
    (builderStep (runHistory b hist).1 req).2 = (builderStep {} req).2 := by
  rw [builderStep_snd, builderStep_snd]

/-- the outputs of a history are the outputs of the individual fresh builds -/
theorem build_is_a_function (hist : List (FC × Config)) (b : BuilderObj) :
    (runHistory b hist).2 = hist.map (fun r => build r.1 r.2) := by
  induction hist generalizing b with
  | nil => rfl
  | cons r rs ih =>
    rw [List.map_cons, ← ih (builderStep b r).1, ← builderStep_snd b r, runHistory]

/-- **support files stand alone**: the six support files of a build result are exactly those
    generated stand-alone with the same namespace prefix — they do not depend on the model or on
    anything else in the configuration -/
theorem support_files_standalone (fc : FC) (cfg : Config) (r : BuildResult) (h : build fc cfg = .ok r) :
    r.files.drop 2 = Kind.all.map (fun k => createHeader k cfg.pfx) := by
  obtain ⟨_, _, rfl⟩ := build_ok h
  rfl

end C12
