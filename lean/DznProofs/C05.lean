/-
  C05 — Parsing preserves every declaration of the Dezyne JSON AST with correct names.
  Round trip: parse (encode f) = collect f for every well-formed declaration tree.
-/
import DznModel.SpecParser
import DznProofs.C05Skip
open Py Scoping Ast JVal Parser Spec Lem

namespace C05

/-- the list parsers `parseFormals`, `parseEvents`, … are this `do` block -/
theorem elements_enc {α} {c : Str} {enc : α → JVal} {p : JVal → R α} {wf : α → Bool}
    (henc : ∀ a, wf a = true → p (enc a) = .ok a) {l : List α} (h : l.all wf = true) :
    (do let o ← asObj (.obj [cls c, (L "elements", .arr (l.map enc))]); assertClass o c
        (← getList o (L "elements")).mapM p) = .ok l :=
  asClass_eq_ok rfl <| bind_eq_ok rfl <| by
    rw [mapM_map_pure (g := id) fun a ha => henc a (List.all_eq_true.1 h a ha), List.map_id]
    rfl

/-! Each parser is run on the encoding step by step: the object is of the expected class (`asClass_eq_ok`), a getter
    reads its field off the literal object by evaluation (`bind_eq_ok rfl`), a nested parser succeeds by its own lemma;
    once no lemma is needed any more, the rest evaluates (`rfl`). -/

theorem parseScopeName_enc (ids : Ids) (h : wfName ids = true) :
    parseScopeName (encScopeName ids) = .ok ids := by
  obtain ⟨hne, hv⟩ := Bool.and_eq_true_iff.1 h
  refine asClass_eq_ok rfl <| bind_eq_ok rfl ?_
  cases ids with
  | nil => cases hne
  | cons a r => exact idsOfJson_ok_iff.2 ⟨rfl, hv⟩

@[simp] theorem isObj_encScopeName (i : Ids) : (encScopeName i).isObj = true := rfl
@[simp] theorem isObj_encFormals (f : List Formal) : (encFormals f).isObj = true := rfl
@[simp] theorem isObj_encPorts (f : List Port) : (encPorts f).isObj = true := rfl
@[simp] theorem isObj_obj (kvs : List (Str × JVal)) : (JVal.obj kvs).isObj = true := rfl

theorem parseFormalDirection_enc (d : FormalDir) : parseFormalDirection (encFormalDir d) = .ok d := by
  cases d <;> rfl

theorem parseFormal_enc (f : Formal) (h : wfFormal f = true) : parseFormal (encFormal f) = .ok f :=
  asClass_eq_ok rfl <| bind_eq_ok rfl <| bind_eq_ok rfl <| bind_eq_ok (parseScopeName_enc _ h) <|
  bind_eq_ok rfl <| bind_eq_ok (parseFormalDirection_enc _) rfl

theorem parseFormals_enc (fs : List Formal) (h : fs.all wfFormal = true) :
    parseFormals (encFormals fs) = .ok fs :=
  elements_enc parseFormal_enc h

theorem parseEventDirection_enc (d : EventDir) : parseEventDirection (encEventDir d) = .ok d := by
  cases d <;> rfl

theorem parseEvent_enc (e : Event) (h : wfEvent e = true) : parseEvent (encEvent e) = .ok e := by
  simp only [wfEvent, Bool.and_eq_true, Bool.or_eq_true, decide_eq_true_eq] at h
  obtain ⟨⟨h1, h2⟩, h3⟩ := h
  refine asClass_eq_ok rfl <| bind_eq_ok rfl <| bind_eq_ok rfl <|
    bind_eq_ok (asClass_eq_ok rfl <| bind_eq_ok rfl <| bind_eq_ok (parseScopeName_enc _ h1) <| bind_eq_ok rfl <|
      bind_eq_ok (parseFormals_enc _ h2) rfl) <|
    bind_eq_ok rfl <| bind_eq_ok (parseEventDirection_enc _) ?_
  -- the two checks on out events pass by the third clause of `wfEvent`
  refine (if_neg ?void).trans ((if_neg ?outparam).trans rfl)
  case void => rcases h3 with h3 | h3 <;> simp [h3]
  case outparam =>
    rcases h3 with h3 | h3
    · simp [h3]
    · simpa using fun _ => h3.2

theorem parsePortDirection_enc (d : PortDir) : parsePortDirection (encPortDir d) = .ok d := by
  cases d <;> rfl

theorem parsePort_enc (p : Port) (h : wfPort p = true) : parsePort (encPort p) = .ok p := by
  obtain ⟨name, ty, dir, fs, inj⟩ := p
  obtain ⟨h1, h2⟩ := Bool.and_eq_true_iff.1 h
  cases inj <;> exact
    asClass_eq_ok rfl <| bind_eq_ok rfl <| bind_eq_ok rfl <| bind_eq_ok (parseScopeName_enc _ h1) <|
    bind_eq_ok rfl <| bind_eq_ok (parsePortDirection_enc _) <| bind_eq_ok rfl <| bind_eq_ok (parseFormals_enc _ h2) rfl

theorem parsePorts_enc (ps : List Port) (h : ps.all wfPort = true) : parsePorts (encPorts ps) = .ok ps :=
  elements_enc parsePort_enc h

theorem parseEnum_enc (n : Ids) (f : List Str) (ns : NsTree) (h : wfName n = true) :
    parseEnum (encEnum n f) ns =
      .ok { fqn := ns.fqn ++ n, parent := ns, name := n, fields := f.map jstr } :=
  asClass_eq_ok rfl <| bind_eq_ok rfl <| bind_eq_ok (parseScopeName_enc _ h) rfl

theorem parseSubint_enc (n : Ids) (lo hi : Int) (ns : NsTree) (h : wfName n = true) :
    parseSubint (encSubint n lo hi) ns =
      .ok { fqn := ns.fqn ++ n, parent := ns, name := n, fromV := .int lo, toV := .int hi } :=
  asClass_eq_ok rfl <| bind_eq_ok rfl <| bind_eq_ok (parseScopeName_enc _ h) rfl

theorem parseTypeItem_enc (trail : NsTree) (t : DType) (h : wfType t = true) :
    parseTypeItem trail (encType t) = .ok (collectType trail t) := by
  cases t with
  | enum n f => exact bind_eq_ok rfl <| bind_eq_ok (parseEnum_enc n f trail h) rfl
  | subint n lo hi => exact bind_eq_ok rfl <| bind_eq_ok (parseSubint_enc n lo hi trail h) rfl
  | unknown c =>
    simp only [wfType, Bool.and_eq_true, decide_eq_true_eq] at h
    refine bind_eq_ok rfl ?_
    simp only [eqStr, h.1, h.2]
    rfl

theorem filterMap_id_map {α β} (f : α → Option β) (l : List α) :
    (l.map f).filterMap id = l.filterMap f :=
  List.filterMap_map ..

theorem parseTypes_enc (trail : NsTree) (ts : List DType) (h : ts.all wfType = true) :
    parseTypes (.obj [cls (L "types"), (L "elements", .arr (ts.map encType))]) trail
      = .ok (ts.filterMap (collectType trail)) :=
  asClass_eq_ok rfl <| bind_eq_ok rfl <|
  bind_eq_ok (mapM_map_pure fun a ha => parseTypeItem_enc trail a (List.all_eq_true.1 h a ha))
    (congrArg _ (filterMap_id_map _ _))

theorem parseInstance_enc (i : Instance) (h : wfName i.typeName = true) :
    parseInstance (encInstance i) = .ok i :=
  asClass_eq_ok rfl <| bind_eq_ok rfl <| bind_eq_ok rfl <| bind_eq_ok (parseScopeName_enc _ h) rfl

theorem parseEndpoint_enc (e : EndPoint) : parseEndpoint (encEndpoint e) = .ok e := by
  obtain ⟨p, i⟩ := e
  cases i <;> rfl

theorem parseBinding_enc (b : Binding) : parseBinding (encBinding b) = .ok b :=
  asClass_eq_ok rfl <| bind_eq_ok rfl <| bind_eq_ok (parseEndpoint_enc _) <| bind_eq_ok rfl <|
  bind_eq_ok (parseEndpoint_enc _) rfl

theorem parseComponentLike_enc {c : Str} (n : Ids) (ps : List Port) (ns : NsTree) (h1 : wfName n = true)
    (h2 : ps.all wfPort = true) :
    parseComponentLike c (.obj [cls c, (L "name", encScopeName n), (L "ports", encPorts ps)]) ns =
      .ok { fqn := ns.fqn ++ n, parent := ns, name := n, ports := ps } :=
  asClass_eq_ok rfl <| bind_eq_ok rfl <| bind_eq_ok (parseScopeName_enc _ h1) <| bind_eq_ok rfl <|
  bind_eq_ok (parsePorts_enc _ h2) rfl

theorem parseSystem_enc (n : Ids) (ps : List Port) (is : List Instance) (bs : List Binding) (ns : NsTree)
    (h1 : wfName n = true) (h2 : ps.all wfPort = true) (h3 : is.all (fun i => wfName i.typeName) = true) :
    parseSystem (encode (.system n ps is bs)) ns =
      .ok { fqn := ns.fqn ++ n, parent := ns, name := n, ports := ps, instances := is, bindings := bs } :=
  asClass_eq_ok rfl <| bind_eq_ok rfl <| bind_eq_ok (parseScopeName_enc _ h1) <| bind_eq_ok rfl <|
  bind_eq_ok (parsePorts_enc _ h2) <| bind_eq_ok rfl <| bind_eq_ok (elements_enc parseInstance_enc h3) <|
  bind_eq_ok rfl <| bind_eq_ok (elements_enc (wf := fun _ => true) (fun b _ => parseBinding_enc b)
    (List.all_eq_true.2 fun _ _ => rfl)) rfl

theorem parseInterface_enc (n : Ids) (ts : List DType) (es : List Event) (ns : NsTree) (h1 : wfName n = true)
    (h2 : ts.all wfType = true) (h3 : es.all wfEvent = true) :
    parseInterface (encode (.interface n ts es)) ns =
      .ok { fqn := ns.fqn ++ n, parent := ns, trail := ns.push n, name := n,
            types := ts.filterMap (collectType (ns.push n)), events := es } :=
  asClass_eq_ok rfl <| bind_eq_ok rfl <| bind_eq_ok (parseScopeName_enc _ h1) <| bind_eq_ok rfl <|
  bind_eq_ok (parseTypes_enc _ _ h2) <| bind_eq_ok rfl <| bind_eq_ok (elements_enc parseEvent_enc h3) rfl

theorem parseExtern_enc (n : Ids) (v : Str) (ns : NsTree) (h : wfName n = true) :
    parseExtern (encode (.extern n v)) ns = .ok { fqn := ns.fqn ++ n, parent := ns, name := n, value := v } :=
  asClass_eq_ok rfl <| bind_eq_ok rfl <| bind_eq_ok (parseScopeName_enc _ h) rfl

theorem parseNamespaceHead_enc (n : Ids) (js : List JVal) (h : wfName n = true) :
    ∃ p, parseNamespaceHead [cls (L "namespace"), (L "name", encScopeName n), (L "elements", .arr js)] =
      .ok (n, ⟨js, p⟩) :=
  parseNamespaceHead_of rfl rfl (parseScopeName_enc n h) rfl

mutual
/-- `parse_element` on the encoding of any well-formed element appends exactly what the
    specification collects (and raises nothing) -/
theorem parseElement_enc (e : DElem) (ns : NsTree) (fc : FC) (h : wfElem e = true) :
    parseElement (encode e) ns fc = (collect ns fc e, none) := by
  match e with
  | .nspace n es =>
    obtain ⟨h1, h2⟩ := Bool.and_eq_true_iff.1 h
    obtain ⟨p, hp⟩ := parseNamespaceHead_enc n (encodeL es) h1
    exact (parseElement_namespace ns fc rfl rfl hp).trans (parseElements_enc es (ns.push n) fc h2)
  | .component n ps =>
    obtain ⟨h1, h2⟩ := Bool.and_eq_true_iff.1 h
    exact (parseElement_component ns fc rfl).trans (addTo_of_ok (parseComponentLike_enc n ps ns h1 h2))
  | .foreign n ps =>
    obtain ⟨h1, h2⟩ := Bool.and_eq_true_iff.1 h
    exact (parseElement_foreign ns fc rfl).trans (addTo_of_ok (parseComponentLike_enc n ps ns h1 h2))
  | .system n ps is bs =>
    obtain ⟨h12, h3⟩ := Bool.and_eq_true_iff.1 h
    obtain ⟨h1, h2⟩ := Bool.and_eq_true_iff.1 h12
    exact (parseElement_system ns fc rfl).trans (addTo_of_ok (parseSystem_enc n ps is bs ns h1 h2 h3))
  | .interface n ts es =>
    obtain ⟨h12, h3⟩ := Bool.and_eq_true_iff.1 h
    obtain ⟨h1, h2⟩ := Bool.and_eq_true_iff.1 h12
    exact (parseElement_interface ns fc rfl).trans (addTo_of_ok (parseInterface_enc n ts es ns h1 h2 h3))
  | .enum n f =>
    exact (parseElement_enum ns fc rfl).trans (addTo_of_ok (parseEnum_enc n f ns h))
  | .subint n lo hi =>
    exact (parseElement_subint ns fc rfl).trans (addTo_of_ok (parseSubint_enc n lo hi ns h))
  | .extern n v =>
    exact (parseElement_extern ns fc rfl).trans (addTo_of_ok (parseExtern_enc n v ns h))
  | .import_ n =>
    exact (parseElement_import ns fc rfl).trans (addTo_of_ok rfl)
  | .filename n =>
    exact (parseElement_filename ns fc rfl).trans (addTo_of_ok rfl)
  | .unknown c =>
    have hc : ∀ k ∈ knownClasses, (JVal.str c).eqStr k = false := fun k hk =>
      decide_eq_false fun hck => by rw [wfElem, hck, List.contains_iff_mem.2 hk] at h; cases h
    refine unknown_object_skipped _ _ ns fc rfl ⟨?_, ?_, ?_, ?_, ?_, ?_, ?_, ?_, ?_, ?_⟩ <;> exact hc _ (by decide)
  | .nondict s => exact parseElement_nonobj ns fc nofun
theorem parseElements_enc (es : List DElem) (ns : NsTree) (fc : FC) (h : wfElems es = true) :
    parseElements (encodeL es) ns fc = (collectL ns fc es, none) := by
  match es with
  | [] => rw [encodeL, parseElements]; rfl
  | e :: rest =>
    obtain ⟨h1, h2⟩ := Bool.and_eq_true_iff.1 h
    rw [encodeL, parseElements, parseElement_enc e ns fc h1]
    exact parseElements_enc rest ns (collect ns fc e) h2
end

/-- **C05 (round trip)**: for every well-formed Dezyne declaration tree `es` (arbitrary namespace
    nesting, multi-identifier and re-opened namespaces, any mix and order of declarations, empty
    containers, unknown classes and non-dict elements), parsing its JSON encoding yields exactly
    the depth-first collection: one entry per declaration, fully qualified by its enclosing
    namespaces, all fields as written, source order per container, nothing invented or dropped -/
theorem roundtrip (es : List DElem) (h : wfElems es = true) :
    parse (encodeRoot es) = .ok (collectL {} {} es) := by
  have hr : parseRoot (encodeRoot es) = .ok (encodeL es) := rfl
  simp only [parse, processFrom, hr, parseElements_enc es {} {} h]

/-- the specification `collectL` skips element classes the parser does not know (and non-dict elements) without
    affecting their siblings; for the parser itself this is `skipped_element_irrelevant` -/
theorem unknown_skipped (a b : List DElem) (c : Str) (ns : NsTree) (fc : FC) :
    collectL ns fc (a ++ [.unknown c] ++ b) = collectL ns fc (a ++ b) ∧
    ∀ s, collectL ns fc (a ++ [.nondict s] ++ b) = collectL ns fc (a ++ b) := by
  have key : ∀ (x : DElem), (∀ ns fc, collect ns fc x = fc) →
      ∀ a ns fc, collectL ns fc (a ++ [x] ++ b) = collectL ns fc (a ++ b) := by
    intro x hx a
    induction a with
    | nil => simp [collectL, hx]
    | cons y r ih => intro ns fc; exact ih _ _
  exact ⟨key _ (fun _ _ => rfl) a ns fc, fun s => key _ (fun _ _ => rfl) a ns fc⟩


/-- every declaration carries the fully qualified name formed by its enclosing namespaces -/
def FqnOk (f : FC) : Prop := ∀ d ∈ f.decls, d.fqn = d.parent.fqn ++ d.name

theorem fqnOk_iff (f : FC) : FqnOk f ↔
    (∀ d ∈ f.components, d.fqn = d.parent.fqn ++ d.name) ∧ (∀ d ∈ f.enums, d.fqn = d.parent.fqn ++ d.name) ∧
    (∀ d ∈ f.externs, d.fqn = d.parent.fqn ++ d.name) ∧ (∀ d ∈ f.foreigns, d.fqn = d.parent.fqn ++ d.name) ∧
    (∀ d ∈ f.interfaces, d.fqn = d.parent.fqn ++ d.name) ∧
    (∀ d ∈ f.subints, d.fqn = d.parent.fqn ++ d.name) ∧
    (∀ d ∈ f.systems, d.fqn = d.parent.fqn ++ d.name) := by
  simp only [FqnOk, FC.decls, List.forall_mem_append, List.forall_mem_map, and_assoc]
  rfl

theorem forall_mem_snoc {α} {Q : α → Prop} {l : List α} {x : α} (hl : ∀ d ∈ l, Q d) (hx : Q x) :
    ∀ d ∈ l ++ [x], Q d :=
  List.forall_mem_append.2 ⟨hl, fun _ hd => List.mem_singleton.1 hd ▸ hx⟩

mutual
theorem collect_fqnOk (e : DElem) (ns : NsTree) (fc : FC) (h : FqnOk fc) : FqnOk (collect ns fc e) := by
  obtain ⟨h1, h2, h3, h4, h5, h6, h7⟩ := (fqnOk_iff fc).1 h
  match e with
  | .nspace n es => exact collectL_fqnOk es (ns.push n) fc h
  | .unknown _ | .nondict _ | .import_ _ | .filename _ => exact h
  | .component n ps => exact (fqnOk_iff _).2 ⟨forall_mem_snoc h1 rfl, h2, h3, h4, h5, h6, h7⟩
  | .foreign n ps => exact (fqnOk_iff _).2 ⟨h1, h2, h3, forall_mem_snoc h4 rfl, h5, h6, h7⟩
  | .system n ps is bs => exact (fqnOk_iff _).2 ⟨h1, h2, h3, h4, h5, h6, forall_mem_snoc h7 rfl⟩
  | .enum n f => exact (fqnOk_iff _).2 ⟨h1, forall_mem_snoc h2 rfl, h3, h4, h5, h6, h7⟩
  | .subint n lo hi => exact (fqnOk_iff _).2 ⟨h1, h2, h3, h4, h5, forall_mem_snoc h6 rfl, h7⟩
  | .extern n v => exact (fqnOk_iff _).2 ⟨h1, h2, forall_mem_snoc h3 rfl, h4, h5, h6, h7⟩
  | .interface n ts es =>
    -- the hoisted types are those `collectType` makes, qualified by the interface's own trail
    refine (fqnOk_iff _).2 ⟨h1, List.forall_mem_append.2 ⟨h2, fun d hd => ?_⟩, h3, h4, forall_mem_snoc h5 rfl,
      List.forall_mem_append.2 ⟨h6, fun d hd => ?_⟩, h7⟩
    all_goals
      obtain ⟨t, ht, htd⟩ := List.mem_filterMap.1 hd
      obtain ⟨t0, _, ht0⟩ := List.mem_filterMap.1 ht
      cases t0 <;> cases ht0 <;> cases htd
      rfl
theorem collectL_fqnOk (es : List DElem) (ns : NsTree) (fc : FC) (h : FqnOk fc) :
    FqnOk (collectL ns fc es) := by
  match es with
  | [] => exact h
  | e :: rest => exact collectL_fqnOk rest ns _ (collect_fqnOk e ns fc h)
end

/-- **C05 (names)**: in the parse result of every well-formed document, every declaration —
    including enums and subints nested in interfaces — has the fully qualified name formed by
    its enclosing namespaces followed by its own name -/
theorem fqn_is_path_plus_name (es : List DElem) (h : wfElems es = true) :
    ∃ f, parse (encodeRoot es) = .ok f ∧ ∀ d ∈ f.decls, d.fqn = d.parent.fqn ++ d.name :=
  ⟨_, roundtrip es h, collectL_fqnOk es {} {} (by intro d hd; simp [FC.decls] at hd)⟩

end C05
