/-
  C20 — C++ building blocks render matching declarations and definitions.  (**partial**)
  Proved: the structural relation between the rendered declaration and definition, and the
  balance of namespace/struct blocks, for every descriptor.  Not provable here: acceptance by a
  C++ compiler (sampled by the check as model validation).
-/
import DznModel.CppGen
import DznProofs.Lemmas.Basic
import DznProofs.Lemmas.Text
import DznProofs.C17
open Py Text Scoping CppGen Lem

namespace C20

/-- a parameter's declaration is its definition, plus ` = default` when (and only when) a
    non-empty default value is given: same type, same name -/
theorem param_decl_is_def_plus_default (p : Param) :
    p.asDecl = p.asDef ∨ ∃ d, d ≠ [] ∧ p.ty.dflt = some d ∧ p.asDecl = p.asDef ++ L " = " ++ d := by
  unfold Param.asDecl
  cases p.ty.dflt with
  | none => exact Or.inl rfl
  | some d =>
    cases d with
    | nil => exact Or.inl rfl
    | cons c cs => exact Or.inr ⟨_, List.cons_ne_nil c cs, rfl, rfl⟩

theorem tbOfStr_line {s : Str} (hb : Spec.breakFree s = true) : tbOfStr s = s ++ ['\n'] := by
  show tbStr [] ([s].flatMap itemLines) = _
  rw [List.flatMap_singleton, itemLines_of_breakFree hb, tbStr_eq]
  exact List.append_nil _

/-- **declaration shape**: prefix, return type, name, the parameters *as declarations* in order,
    const qualification, `override`, ` = init`, `;` -/
theorem decl_shape (f : Function) (hb : Spec.breakFree f.declText = true) :
    f.asDecl = f.pfx.str ++ f.ret.str ++ L " " ++ f.name ++ L "(" ++
      join (L ", ") (f.params.map Param.asDecl) ++ L ")" ++
      (if f.cav.isEmpty then [] else L " " ++ f.cav) ++
      (if f.override then L " override" else []) ++
      (if f.init.isEmpty then [] else L " = " ++ f.init) ++ L ";" ++ ['\n'] := by
  unfold Function.asDecl
  rw [tbOfStr_line hb]
  rfl

/-- **definition shape** (empty body): the definition signature, ` {}` -/
theorem def_shape (f : Function) (hi : f.init = []) (hc : truthy f.contents = false)
    (hb : Spec.breakFree (f.defSig ++ L " {}") = true) :
    f.asDef = f.defSig ++ L " {}" ++ ['\n'] := by
  unfold Function.asDef
  rw [hi, hc, tbOfStr_line hb]
  rfl

/-- …where the definition signature is: return type, owner qualification, the *same* name, the
    parameters *as definitions* (no defaults) in the same order, the same const qualification -/
theorem defSig_shape (f : Function) :
    f.defSig = f.ret.str ++ L " " ++ (match f.scope with | some s => s ++ L "::" | none => []) ++
      f.name ++ L "(" ++ join (L ", ") (f.params.map Param.asDef) ++ L ")" ++
      (if f.cav.isEmpty then [] else L " " ++ f.cav) := rfl

def Param.stripDefault (p : Param) : Param := { p with ty := { p.ty with dflt := none } }

theorem asDef_stripDefault (p : Param) : (Param.stripDefault p).asDef = p.asDef := rfl

theorem map_asDef_stripDefault (ps : List Param) : (ps.map Param.stripDefault).map Param.asDef = ps.map Param.asDef :=
  List.map_map.trans (List.map_congr_left fun p _ => asDef_stripDefault p)

/-- default values, `virtual`/`static`, `override` never reach the definition -/
theorem def_ignores_decl_only_parts (f : Function) (x : FnPrefix) (o : Bool) :
    ({ f with pfx := x, override := o, params := f.params.map Param.stripDefault } : Function).asDef
      = f.asDef := by
  simp only [Function.asDef, Function.defSig, paramsDef, map_asDef_stripDefault]

/-- no definition when the declaration is initialised (`= default`, `= 0`, `= delete`) -/
theorem initialised_no_def (f : Function) (h : f.init ≠ []) : f.asDef = [] :=
  if_pos (congrArg not (List.isEmpty_eq_false_iff.mpr h))

theorem constructor_def_ignores_decl_only_parts (c : Constructor) (e : Bool) :
    ({ c with «explicit» := e, params := c.params.map Param.stripDefault } : Constructor).asDef = c.asDef := by
  simp only [Constructor.asDef, Constructor.defSig, paramsDef, map_asDef_stripDefault]

theorem destructor_initialised_no_def (d : Destructor) (h : d.init ≠ []) : d.asDef = [] :=
  if_pos (congrArg not (List.isEmpty_eq_false_iff.mpr h))

theorem block_lines (openers : List Str) (closer : Str) (t : TB)
    (ho : ∀ o ∈ openers, Spec.breakFree o = true) (hc : Spec.breakFree closer = true)
    (ht : ∀ l ∈ t.header ++ t.lines, Spec.breakFree l = true) :
    (TB.mk' (.list (openers.map .str ++ [t.asContent, .str closer]))).lines
      = openers ++ (t.header ++ t.lines) ++ [closer] := by
  have hwf : Spec.wfContentL (openers.map .str ++ [t.asContent, .str closer]) = true := by
    rw [C17.wfContentL_strs_append]
    show ((t.header.all Spec.breakFree && t.lines.all Spec.breakFree) && true) = true
    rw [← List.all_append, List.all_eq_true.mpr ht]
    rfl
  -- the lines are the pieces; a break-free string is its own piece (`Spec.strPieces` is `itemLines` by definition),
  -- a nested block hands over header and lines
  calc _ = Spec.piecesL (openers.map Content.str ++ [t.asContent, .str closer]) := C17.lines_eq_pieces (.list _) hwf
    _ = openers.flatMap itemLines ++ ((t.header ++ t.lines) ++ (itemLines closer ++ [])) := C17.piecesL_strs_append ..
    _ = openers ++ ((t.header ++ t.lines) ++ ([closer] ++ [])) := by
      rw [flatMap_itemLines_id ho, itemLines_of_breakFree hc]
    _ = _ := by simp only [List.append_nil, List.append_assoc]

/-- **namespaces render balanced**: opener naming the namespace, unchanged contents, matching
    closer (for non-empty contents); one line `namespace X {}` when empty -/
theorem namespace_balanced (ns : Ids) (t : TB)
    (hns : Spec.breakFree (nsSuffix ns) = true)
    (ht : ∀ l ∈ t.header ++ t.lines, Spec.breakFree l = true) :
    (t.lines ≠ [] → (namespaceBlock ns t).lines =
        [L "namespace" ++ nsSuffix ns ++ L " {"] ++ (t.header ++ t.lines) ++ [L "} // namespace" ++ nsSuffix ns]) ∧
    (t.lines = [] → (namespaceBlock ns t).lines = [L "namespace" ++ nsSuffix ns ++ L " {}"]) := by
  have hhead : Spec.breakFree (L "namespace" ++ nsSuffix ns ++ L " {") = true :=
    breakFree_append (breakFree_append (by decide +kernel) hns) (by decide +kernel)
  unfold namespaceBlock
  constructor
  · intro hne
    rw [if_neg (mt List.isEmpty_iff.mp hne)]
    exact block_lines [_] _ t (List.forall_mem_singleton.mpr hhead) (breakFree_append (by decide +kernel) hns) ht
  · intro he
    rw [if_pos (List.isEmpty_iff.mpr he)]
    exact (C17.strList_lines [_] (List.forall_mem_singleton.mpr (breakFree_append hhead (by decide +kernel)))).trans
      (by rw [List.append_assoc]; rfl)

/-- **structs/classes render balanced**: `struct N`, `{`, unchanged contents, `};` -/
theorem struct_balanced (kw name : Str) (t : TB) (hne : t.lines ≠ [])
    (hk : Spec.breakFree (kw ++ L " " ++ name) = true)
    (ht : ∀ l ∈ t.header ++ t.lines, Spec.breakFree l = true) :
    (structBlock kw name t).lines = [kw ++ L " " ++ name, L "{"] ++ (t.header ++ t.lines) ++ [L "};"] := by
  unfold structBlock
  rw [if_neg (mt List.isEmpty_iff.mp hne)]
  exact block_lines [_, _] _ t (List.forall_mem_cons.mpr ⟨hk, List.forall_mem_singleton.mpr rfl⟩) rfl ht

/-! ### descriptions the constructors refuse -/

theorem check_ok {f : Function} (h : f.check = .ok ()) :
    f.name ≠ [] ∧ (f.pfx = .virtual → f.scope.isSome = true) ∧
    ((L "0").isPrefixOf f.init = true → f.pfx = .virtual) := by
  obtain ⟨h1, h⟩ := ite_ok h
  obtain ⟨h2, h⟩ := ite_ok h
  have h3 := (ite_ok h).1
  refine ⟨fun e => h1 (by rw [e]; rfl), fun e => ?_, fun h0 => ?_⟩
  · cases hs : f.scope with
    | none => exact absurd (by rw [e, hs]; rfl) h2
    | some _ => rfl
  · cases hp : f.pfx with
    | virtual => rfl
    | member => exact absurd (by rw [h0, hp]; rfl) h3
    | static => exact absurd (by rw [h0, hp]; rfl) h3

/-- **a rendered function description was accepted by the constructor's validation**: it has a name, a `virtual` one has
    an owning struct/class, and a pure-specifier (`= 0…`) is only ever rendered on a virtual member function of an
    owner — the combinations a C++ compiler would refuse are refused before anything is rendered -/
theorem checked_function (f : Function) (p : Str × Str) (h : f.render = .ok p) :
    f.name ≠ [] ∧ (f.pfx = .virtual → f.scope.isSome = true) ∧
    ((L "0").isPrefixOf f.init = true → f.pfx = .virtual ∧ f.scope.isSome = true) ∧
    p = (f.asDecl, f.asDef) := by
  obtain ⟨⟨⟩, hc, h⟩ := bind_ok h
  obtain ⟨hn, hv, hz⟩ := check_ok hc
  exact ⟨hn, hv, fun h0 => ⟨hz h0, hv (hz h0)⟩, (pure_ok h).symm⟩

/-- … and every refusal is the library's own error -/
theorem refused_function (f : Function) (e : PyErr) (h : f.render = .error e) : e = .lib .CppGenError :=
  have check : FailsIn (· = .lib .CppGenError) f.check := .ite (.error rfl) (.ite (.error rfl) (.ite (.error rfl) .ok))
  check.bind (fun _ => .pure) e h

/-- a rendered constructor description never combines `= default/delete` with a member initialiser list; with
    `asDef = []` for an initialised one (`initialised_no_def`) no member initialiser is ever rendered without a body -/
theorem checked_constructor (c : Constructor) (p : Str × Str) (h : c.render = .ok p) :
    (c.init = [] ∨ c.mil = []) ∧ p = (c.asDecl, c.asDef) := by
  obtain ⟨⟨⟩, hc, h⟩ := bind_ok h
  refine ⟨?_, (pure_ok h).symm⟩
  have hb := (ite_ok hc).1
  cases hi : c.init with
  | nil => exact .inl rfl
  | cons a t =>
    cases hm : c.mil with
    | nil => exact .inr rfl
    | cons b u => exact absurd (by rw [hi, hm]; rfl) hb

/-- the hypotheses are satisfiable: `virtual void f() = 0;` in struct S is rendered, `void f() = 0;` is refused -/
example : ({ ret := { fqn := { ids := [L "void"] } }, name := L "f", pfx := .virtual, init := L "0", scope := some (L "S") } : Function).render.isOk = true := by decide
example : ({ ret := { fqn := { ids := [L "void"] } }, name := L "f", init := L "0" } : Function).render.isOk = false := by decide

/-- the text of a rendered pure-virtual declaration starts with `virtual ` -/
theorem pure_specifier_is_virtual (f : Function) (p : Str × Str) (h : f.render = .ok p)
    (h0 : (L "0").isPrefixOf f.init = true) (hb : Spec.breakFree f.declText = true) :
    (L "virtual ").isPrefixOf p.1 = true := by
  obtain ⟨_, _, hv, rfl⟩ := checked_function f p h
  rw [decl_shape f hb, (hv h0).1]
  simp only [List.append_assoc]
  exact List.isPrefixOf_iff_prefix.mpr (List.prefix_append _ _)

end C20
