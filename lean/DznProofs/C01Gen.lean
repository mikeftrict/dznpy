/-
  C01 (continued) — from the generator to the behaviour of the constructed shell.

  `C01.env_to_comp_mts_provides` and its siblings say what one call does *given* what the slots
  hold.  This file closes the gap to the generator: what the slots of a shell hold after its
  constructor has run, what `create_constructor` emits, and their composition, first for the generated
  constructor, then for `Builder.build`: for every model and configuration for which the
  generator succeeds, every event of a multi-threaded port that is not the multi-client port is
  forwarded exactly once, intact, with reply and out-values carried back.
-/
import DznModel.Sem
import DznProofs.Lemmas.Sem
import DznProofs.Lemmas.Build
import DznProofs.Lemmas.Wiring
import DznProofs.C01
open Py Scoping Ast Support Shell Sem Lem

namespace C01

/-! ### `runAssigns`: every assignment whose event is known stores its handler; nothing else changes -/

theorem set_ir (w : World) (s : RSlot) (h : RH) : (w.set s h).ir = w.ir := rfl

/-- the event `runAssigns` attaches to an assignment -/
def eventOfAssign (ir : ShellIR) (a : Assign) (itfOfLocal : Option InterfaceD) : Option Event :=
  match a.lhs.obj, itfOfLocal with
  | .local_, some itf => itf.events.find? (fun e => e.name = a.lhs.ev ∧ evDirOf e = a.lhs.dir)
  | _, _ => findEvent (ir.provides ++ ir.requires) a.lhs

theorem eventOfAssign_none (ir : ShellIR) (a : Assign) :
    eventOfAssign ir a none = findEvent (ir.provides ++ ir.requires) a.lhs := by
  unfold eventOfAssign
  cases a.lhs.obj <;> rfl

theorem eventOfAssign_local {a : Assign} {ir : ShellIR} {itf : InterfaceD} (h : a.lhs.obj = .local_) :
    eventOfAssign ir a (some itf) = itf.events.find? (fun e => e.name = a.lhs.ev ∧ evDirOf e = a.lhs.dir) := by
  unfold eventOfAssign
  rw [h]

def assignStep (cmv cid : Str) (il : Option InterfaceD) (w : World) (a : Assign) : World :=
  match eventOfAssign w.ir a il with
  | some ev => w.set (resolveSlot a.lhs cmv cid) (.ir a.rhs ev cid cmv)
  | none => w

theorem runAssigns_eq (w : World) (as : List Assign) (cmv cid : Str) (il : Option InterfaceD) :
    runAssigns w as cmv cid il = as.foldl (assignStep cmv cid il) w := rfl

theorem runAssigns_cons (w : World) (a : Assign) (r : List Assign) (cmv cid : Str) (il : Option InterfaceD) :
    runAssigns w (a :: r) cmv cid il =
      runAssigns (match eventOfAssign w.ir a il with
                  | some ev => w.set (resolveSlot a.lhs cmv cid) (.ir a.rhs ev cid cmv)
                  | none => w) r cmv cid il := rfl

theorem assignStep_cases (cmv cid : Str) (il : Option InterfaceD) (w : World) (a : Assign) :
    assignStep cmv cid il w a = w ∨ ∃ h, assignStep cmv cid il w a = w.set (resolveSlot a.lhs cmv cid) h := by
  unfold assignStep
  cases eventOfAssign w.ir a il with
  | none => exact .inl rfl
  | some ev => exact .inr ⟨_, rfl⟩

theorem runAssigns_ir (w : World) (as : List Assign) (cmv cid : Str) (il : Option InterfaceD) :
    (runAssigns w as cmv cid il).ir = w.ir := by
  obtain ⟨st, e⟩ := Lem.runAssigns_store w as cmv cid il
  rw [e]

theorem runAssigns_queue (w : World) (as : List Assign) (cmv cid : Str) (il : Option InterfaceD) :
    (runAssigns w as cmv cid il).queue = w.queue := by
  obtain ⟨st, e⟩ := Lem.runAssigns_store w as cmv cid il
  rw [e]

theorem assignStep_get_other {cmv cid : Str} {il : Option InterfaceD} (w : World) {a : Assign} {k : RSlot}
    (h : resolveSlot a.lhs cmv cid ≠ k) : (assignStep cmv cid il w a).get k = w.get k := by
  rcases assignStep_cases cmv cid il w a with e | ⟨_, e⟩ <;> rw [e]
  exact get_set_other fun e => h e.symm

theorem runAssigns_get_other (w : World) (as : List Assign) (cmv cid : Str) (il : Option InterfaceD) (k : RSlot)
    (h : ∀ a ∈ as, resolveSlot a.lhs cmv cid ≠ k) :
    (runAssigns w as cmv cid il).get k = w.get k := by
  rw [runAssigns_eq]
  exact List.foldlRecOn (motive := fun w' : World => w'.get k = w.get k) _ _ rfl
    fun w' e a ha => (assignStep_get_other w' (h a ha)).trans e

/-- every assignment to this slot assigns this handler for this event — then the slot holds it,
    however often it is assigned -/
theorem runAssigns_get_of (w : World) (as : List Assign) (cmv cid : Str) (il : Option InterfaceD)
    (a : Assign) (ha : a ∈ as) (ev : Event)
    (hsame : ∀ b ∈ as, resolveSlot b.lhs cmv cid = resolveSlot a.lhs cmv cid →
        b.rhs = a.rhs ∧ eventOfAssign w.ir b il = some ev) :
    (runAssigns w as cmv cid il).get (resolveSlot a.lhs cmv cid) = some (.ir a.rhs ev cid cmv) := by
  rw [runAssigns_eq]
  have hwrite : ∀ b ∈ as, resolveSlot b.lhs cmv cid = resolveSlot a.lhs cmv cid → ∀ w', w'.ir = w.ir →
      (assignStep cmv cid il w' b).get (resolveSlot a.lhs cmv cid) = some (.ir a.rhs ev cid cmv) := by
    intro b hb hk w' hir
    obtain ⟨hr, he⟩ := hsame b hb hk
    unfold assignStep
    rw [hir, he, hk, hr]
    exact get_set_same
  refine foldl_last_writer (·.get (resolveSlot a.lhs cmv cid)) (fun w' : World => w'.ir = w.ir) rfl
    (fun w' hir b hb => ⟨?_, ?_⟩) ⟨a, ha, hwrite a ha rfl⟩
  · rcases assignStep_cases cmv cid il w' b with e | ⟨_, e⟩ <;> rw [e] <;> exact hir
  · by_cases hk : resolveSlot b.lhs cmv cid = resolveSlot a.lhs cmv cid
    · exact .inr (hwrite b hb hk w' hir)
    · exact .inl (assignStep_get_other w' hk)

/-- **no event is routed twice, none is lost**: with pairwise distinct left-hand sides, after the
    constructor body every assignment's slot holds exactly that assignment's handler -/
theorem runAssigns_get_mem (w : World) (as : List Assign) (cmv cid : Str) (il : Option InterfaceD)
    (hnd : (as.map (fun a => resolveSlot a.lhs cmv cid)).Nodup)
    (a : Assign) (ha : a ∈ as) (ev : Event) (hev : eventOfAssign w.ir a il = some ev) :
    (runAssigns w as cmv cid il).get (resolveSlot a.lhs cmv cid) = some (.ir a.rhs ev cid cmv) := by
  refine runAssigns_get_of w as cmv cid il a ha ev fun b hb hk => ?_
  cases nodup_map_inj hnd hb ha hk
  exact ⟨rfl, hev⟩

/-! ### `compBind`: the mock component's own handlers -/

/-- the slot of a component-side event -/
def compSlot (p : Port) (ev : Event) : RSlot := { obj := .enc p.name, dir := evDirOf ev, ev := ev.name }

def compSide (p : Port) (ev : Event) : Prop :=
  (p.dir = .provides ∧ evDirOf ev = .in_) ∨ (p.dir = .requires ∧ evDirOf ev = .out)

/-- a well-formed Dezyne model: a (port name, direction, event name) triple identifies one event
    of one port — Dezyne's own rule that port names are unique in a component and event names in
    an interface -/
def UniqueEvents (ports : List (Port × InterfaceD)) : Prop :=
  ∀ p itf ev p' itf' ev', (p, itf) ∈ ports → ev ∈ itf.events → (p', itf') ∈ ports → ev' ∈ itf'.events →
    compSlot p ev = compSlot p' ev' → p = p' ∧ ev = ev'

/-- the write `compBind` performs for one event of one port -/
def compWrite (skip : Option (Str × EvDir × Str)) (w : World) (p : Port) (ev : Event) : World :=
  let d := evDirOf ev
  let slot : RSlot := { obj := .enc p.name, dir := d, ev := ev.name }
  let compSide := (p.dir = .provides ∧ d = .in_) ∨ (p.dir = .requires ∧ d = .out)
  if compSide then
    if skip = some (p.name, d, ev.name) then w else w.set slot (.scripted .comp p.name ev)
  else if p.dir = .requires ∧ p.injected then w.set slot (.noop ev)
  else w

theorem compWrite_get_other (w : World) {p : Port} {ev : Event} {k : RSlot} (hne : compSlot p ev ≠ k) :
    (compWrite none w p ev).get k = w.get k := by
  unfold compWrite
  let Q := fun w' : World => w'.get k = w.get k
  have write : ∀ h, Q (w.set (compSlot p ev) h) := fun h => get_set_other fun e => hne e.symm
  exact iteInduction (motive := Q) (fun _ => iteInduction (motive := Q) (fun _ => rfl) fun _ => write _)
    fun _ => iteInduction (motive := Q) (fun _ => write _) fun _ => rfl

theorem compWrite_get_same (w : World) {p : Port} {ev : Event} (hside : compSide p ev) :
    (compWrite none w p ev).get (compSlot p ev) = some (.scripted .comp p.name ev) := by
  have hside' : (p.dir = .provides ∧ evDirOf ev = .in_) ∨ (p.dir = .requires ∧ evDirOf ev = .out) := hside
  unfold compWrite
  rw [if_pos hside', if_neg nofun]
  exact get_set_same

theorem compBind_eq (w : World) (skip : Option (Str × EvDir × Str)) :
    compBind w skip =
      w.allPorts.foldl (fun w (pi : Port × InterfaceD) => pi.2.events.foldl (fun w ev => compWrite skip w pi.1 ev) w) w := rfl

def portEvents (ports : List (Port × InterfaceD)) : List (Port × Event) :=
  ports.flatMap fun pi => pi.2.events.map (Prod.mk pi.1)

theorem mem_portEvents {ports : List (Port × InterfaceD)} {p : Port} {ev : Event} :
    (p, ev) ∈ portEvents ports ↔ ∃ itf, (p, itf) ∈ ports ∧ ev ∈ itf.events := by
  simp only [portEvents, List.mem_flatMap, List.mem_map, Prod.mk.injEq, Prod.exists]
  constructor
  · rintro ⟨p', itf, hp, e, he, rfl, rfl⟩; exact ⟨itf, hp, he⟩
  · rintro ⟨itf, hp, he⟩; exact ⟨p, itf, hp, ev, he, rfl, rfl⟩

theorem compBind_flat (skip : Option (Str × EvDir × Str)) (ports : List (Port × InterfaceD)) (w : World) :
    ports.foldl (fun w (pi : Port × InterfaceD) => pi.2.events.foldl (fun w ev => compWrite skip w pi.1 ev) w) w =
      (portEvents ports).foldl (fun w pe => compWrite skip w pe.1 pe.2) w := by
  simp only [portEvents, List.foldl_flatMap, List.foldl_map]

theorem compBind_induction (P : World → Prop) (skip : Option (Str × EvDir × Str)) (ports : List (Port × InterfaceD))
    (w : World) (h0 : P w)
    (hstep : ∀ w p itf ev, (p, itf) ∈ ports → ev ∈ itf.events → P w → P (compWrite skip w p ev)) :
    P (ports.foldl (fun w (pi : Port × InterfaceD) => pi.2.events.foldl (fun w ev => compWrite skip w pi.1 ev) w) w) := by
  rw [compBind_flat]
  refine List.foldlRecOn (motive := P) _ _ h0 fun w hw pe hpe => ?_
  obtain ⟨itf, hp, hev⟩ := mem_portEvents.mp hpe
  exact hstep w pe.1 itf pe.2 hp hev hw

theorem compBind_fields (w : World) (skip : Option (Str × EvDir × Str)) :
    (compBind w skip).ir = w.ir ∧ (compBind w skip).queue = w.queue ∧ (compBind w skip).allPorts = w.allPorts := by
  obtain ⟨st, e⟩ := Lem.compBind_store w skip
  rw [e]
  exact ⟨rfl, rfl, rfl⟩

/-- after the component's binding loop every component-side event of every port is handled by the
    mock component's own scripted handler of that port and event -/
theorem compBind_get (w : World) (hu : UniqueEvents w.allPorts) (p : Port) (itf : InterfaceD) (ev : Event)
    (hp : (p, itf) ∈ w.allPorts) (hev : ev ∈ itf.events) (hside : compSide p ev) :
    (compBind w none).get (compSlot p ev) = some (.scripted .comp p.name ev) := by
  rw [compBind_eq, compBind_flat]
  refine foldl_last_writer (step := fun w pe => compWrite none w pe.1 pe.2) (·.get (compSlot p ev)) (fun _ => True)
    trivial (fun w' _ pe hpe => ⟨trivial, ?_⟩)
    ⟨(p, ev), mem_portEvents.mpr ⟨itf, hp, hev⟩, fun w' _ => compWrite_get_same w' hside⟩
  obtain ⟨itf', hp', hev'⟩ := mem_portEvents.mp hpe
  by_cases hk : compSlot pe.1 pe.2 = compSlot p ev
  · -- a write to this slot: by uniqueness it is the write for `(p, ev)`
    obtain ⟨rfl, rfl⟩ := hu pe.1 itf' pe.2 p itf ev hp' hev' hp hev hk
    exact .inr (compWrite_get_same w' hside)
  · exact .inl (compWrite_get_other w' hk)

/-! ### the constructed shell -/

/-- the world in which the constructor body runs: the component has bound its own events, the
    selectors of the multi-client ports exist -/
def bodyWorld (ir : ShellIR) (allPorts : List (Port × InterfaceD)) (gi : Option Nat) (pump runtime : Bool)
    (name : Str) (extra : Bool) : World :=
  let w := compBind { ir, allPorts, grantIndex := gi, instName := name, protoPump := pump,
                      fac := facInfo ir pump runtime extra } none
  { w with selectors := (ir.provides.filter (·.isMc)).map (fun p => { mv := p.target, port := p.name }) }

theorem construct_ok (ir : ShellIR) (allPorts : List (Port × InterfaceD)) (gi : Option Nat) (pump runtime : Bool)
    (name : Str) (extra : Bool) (hf : ctorCheck ir pump runtime = none) :
    construct ir allPorts gi pump runtime none name extra =
      .ok (runAssigns (bodyWorld ir allPorts gi pump runtime name extra) ir.ctorAssigns [] [] none) :=
  construct_ok_iff.mpr ⟨hf, rfl⟩

theorem get_with_selectors (w : World) (sel : List Selector) (k : RSlot) :
    ({ w with selectors := sel } : World).get k = w.get k := rfl

theorem resolveSlot_inj {s t : Slot} (h : resolveSlot s [] [] = resolveSlot t [] []) : s = t := by
  obtain ⟨so, sd, se⟩ := s
  obtain ⟨to, td, te⟩ := t
  obtain ⟨ho, rfl, rfl⟩ := RSlot.mk.inj h
  cases so <;> cases to <;> cases ho <;> rfl

section
variable {ir : ShellIR} {allPorts : List (Port × InterfaceD)} {gi : Option Nat} {pump runtime : Bool} {name : Str}
  {extra : Bool} {w : World}

theorem construct_eq (hw : construct ir allPorts gi pump runtime none name extra = .ok w) :
    w = runAssigns (bodyWorld ir allPorts gi pump runtime name extra) ir.ctorAssigns [] [] none :=
  (construct_ok_iff.mp hw).2

theorem ctor_slot (hw : construct ir allPorts gi pump runtime none name extra = .ok w)
    {a : Assign} (ha : a ∈ ir.ctorAssigns) {ev : Event} (hfind : findEvent (ir.provides ++ ir.requires) a.lhs = some ev)
    (hsame : ∀ b ∈ ir.ctorAssigns, b.lhs = a.lhs → b.rhs = a.rhs) :
    w.get (resolveSlot a.lhs [] []) = some (.ir a.rhs ev [] []) := by
  have hir : (bodyWorld ir allPorts gi pump runtime name extra).ir = ir := (compBind_fields _ none).1
  rw [construct_eq hw]
  refine runAssigns_get_of _ _ _ _ _ a ha ev fun b hb hk => ?_
  have hl := resolveSlot_inj hk
  rw [hir, eventOfAssign_none, hl]
  exact ⟨hsame b hb hl, hfind⟩

theorem comp_slot (hw : construct ir allPorts gi pump runtime none name extra = .ok w) (hu : UniqueEvents allPorts)
    {p : Port} {itf : InterfaceD} {ev : Event} (hp : (p, itf) ∈ allPorts) (hev : ev ∈ itf.events)
    {d : EvDir} (hd : evDirOf ev = d) (hside : p.dir = .provides ∧ d = .in_ ∨ p.dir = .requires ∧ d = .out)
    (hfree : ∀ b ∈ ir.ctorAssigns, b.lhs ≠ ⟨.enc p.name, d, ev.name⟩) :
    w.get ⟨.enc p.name, d, ev.name⟩ = some (.scripted .comp p.name ev) := by
  subst hd
  rw [construct_eq hw]
  exact (runAssigns_get_other _ _ _ _ _ _ fun b hb hk => hfree b hb (resolveSlot_inj hk)).trans
    (compBind_get _ hu p itf ev hp hev hside)

end

/-- what a constructed shell's slots hold (constructor body after the component's own bindings) -/
theorem constructed_store (ir : ShellIR) (allPorts : List (Port × InterfaceD)) (gi : Option Nat) (pump runtime : Bool)
    (name : Str) (extra : Bool) (hf : ctorCheck ir pump runtime = none) :
    ∃ w, construct ir allPorts gi pump runtime none name extra = .ok w ∧ w.queue = [] ∧
      -- a constructor assignment is in force when every assignment to its slot assigns the same handler
      (∀ a ∈ ir.ctorAssigns, ∀ ev, findEvent (ir.provides ++ ir.requires) a.lhs = some ev → a.lhs.obj ≠ .local_ →
          (∀ b ∈ ir.ctorAssigns, resolveSlot b.lhs [] [] = resolveSlot a.lhs [] [] →
              b.rhs = a.rhs ∧ b.lhs.obj ≠ .local_ ∧ findEvent (ir.provides ++ ir.requires) b.lhs = some ev) →
          w.get (resolveSlot a.lhs [] []) = some (.ir a.rhs ev [] [])) ∧
      -- every component-side event the constructor does not touch is handled by the component itself
      (UniqueEvents allPorts → ∀ p itf ev, (p, itf) ∈ allPorts → ev ∈ itf.events → compSide p ev →
          (∀ b ∈ ir.ctorAssigns, resolveSlot b.lhs [] [] ≠ compSlot p ev) →
          w.get (compSlot p ev) = some (.scripted .comp p.name ev)) := by
  obtain ⟨w, hw⟩ : ∃ w, construct ir allPorts gi pump runtime none name extra = .ok w := construct_isOk.mpr hf
  refine ⟨w, hw, ?_, fun a ha ev hfe _ hsame => ?_, fun hu p itf ev hp hev hside hno => ?_⟩
  · rw [construct_eq hw, runAssigns_queue]
    exact (compBind_fields _ none).2.1
  · exact ctor_slot hw ha hfe fun b hb hl => (hsame b hb (congrArg (resolveSlot · [] []) hl)).1
  · exact comp_slot hw hu hp hev rfl hside fun b hb hl => hno b hb (congrArg (resolveSlot · [] []) hl)

/-- **C01, end to end for a constructed shell** (environment → component, multi-threaded provides
    port): if the constructor of a wiring IR routes the boundary slot `mv.in.ev` through the
    dispatcher to `m_encapsulee.p.in.ev` with the parameters in declared order, no two constructor
    assignments share a left-hand side and none overwrites the component's own handler, then in the
    shell `construct` yields a client's call of `ev` on the boundary port is executed by the wrapped
    component's event `ev` of port `p` exactly once (one observation, in dispatcher context), with
    the arguments intact and in order, and the component's reply and out/inout values come back -/
theorem constructed_forwards_in_event (ir : ShellIR) (allPorts : List (Port × InterfaceD)) (gi : Option Nat)
    (pump runtime : Bool) (name : Str) (extra : Bool) (n : Nat)
    (hf : ctorCheck ir pump runtime = none)
    (hu : UniqueEvents allPorts)
    (p : Port) (itf : InterfaceD) (ev : Event) (hp : (p, itf) ∈ allPorts) (hev : ev ∈ itf.events)
    (hdir : p.dir = .provides) (hin : evDirOf ev = .in_)
    (mv : Str) (ps : List LParam) (byVal : List Str)
    (ha : ({ lhs := ⟨.bnd mv, .in_, ev.name⟩,
             rhs := .shell ⟨.enc p.name, .in_, ev.name⟩ ps (ps.map (·.name)) byVal } : Assign) ∈ ir.ctorAssigns)
    (hfe : findEvent (ir.provides ++ ir.requires) ⟨.bnd mv, .in_, ev.name⟩ = some ev)
    (hsame : ∀ b ∈ ir.ctorAssigns, resolveSlot b.lhs [] [] = ⟨.bnd mv, .in_, ev.name⟩ →
        b.rhs = .shell ⟨.enc p.name, .in_, ev.name⟩ ps (ps.map (·.name)) byVal ∧ b.lhs.obj ≠ .local_ ∧
        findEvent (ir.provides ++ ir.requires) b.lhs = some ev)
    (hno : ∀ b ∈ ir.ctorAssigns, resolveSlot b.lhs [] [] ≠ compSlot p ev)
    (args : List Val) (hlen : ps.length = args.length) (hndp : (ps.map (·.name)).Nodup) :
    ∃ w, construct ir allPorts gi pump runtime none name extra = .ok w ∧
      invoke (n + 3) w ⟨.bnd mv, .in_, ev.name⟩ args =
        ({ w with shellCalls := w.shellCalls + 1, pumpTouched := true, executed := w.executed + 1,
                  out := obsLine .comp p.name ev args true :: w.out },
         .ok (if isVoid ev then none else some (w.reply true p.name ev.name))
             (writeBack ps args (ps.map (·.name)) (rewritten ev args))) := by
  obtain ⟨w, hw, hq, hassign, hcomp⟩ := constructed_store ir allPorts gi pump runtime name extra hf
  refine ⟨w, hw, ?_⟩
  have hb := hassign _ ha ev hfe nofun hsame
  have hc := hcomp hu p itf ev hp hev (.inl ⟨hdir, hin⟩) hno
  rw [compSlot, hin] at hc
  exact env_to_comp_mts_provides w n mv p.name ev ps byVal args hq hb hc hlen hndp


/-! ### what `create_constructor` emits -/

theorem mapM_mem_fwd {α β} (f : α → R β) (l : List α) (r : List β) (h : l.mapM f = .ok r) :
    ∀ a ∈ l, ∃ b ∈ r, f a = .ok b := Lem.mapM_mem_fwd h

/-- the assignment `reroute_in_events` emits for one in-event -/
def inAssign (p : CppPortItf) (ev : Event) (ps : List LParam) : Assign :=
  { lhs := { obj := if p.isMc then PortObj.arb p.target else .bnd p.target, dir := .in_, ev := ev.name },
    rhs := .shell { obj := .enc p.name, dir := .in_, ev := ev.name } ps (formalNames ev) (inFormalNames ev) }

theorem rerouteIn_ok {fc : FC} {p : CppPortItf} {as : List Assign} (h : rerouteInEvents fc p = .ok as) :
    (∀ ev ∈ inEvents p.dzn.itf, ∃ ps, lambdaParamsOf fc p.dzn.itf ev true = .ok ps ∧ inAssign p ev ps ∈ as) ∧
    (∀ a ∈ as, ∃ ev ∈ inEvents p.dzn.itf, ∃ ps, lambdaParamsOf fc p.dzn.itf ev true = .ok ps ∧ a = inAssign p ev ps) :=
  mapM_bind_pure h

/-- the assignment `reroute_out_events` emits for one out-event of a requires port -/
def outAssign (p : CppPortItf) (ev : Event) (ps : List LParam) : Assign :=
  { lhs := { obj := .bnd p.target, dir := .out, ev := ev.name },
    rhs := .post { obj := .enc p.name, dir := .out, ev := ev.name } ps (formalNames ev) (inFormalNames ev) }

theorem rerouteOut_ok {fc : FC} {p : CppPortItf} {as : List Assign} (h : rerouteOutEvents fc p = .ok as) :
    (∀ ev ∈ outEvents p.dzn.itf, ∃ ps, lambdaParamsOf fc p.dzn.itf ev false = .ok ps ∧ outAssign p ev ps ∈ as) ∧
    (∀ a ∈ as, ∃ ev ∈ outEvents p.dzn.itf, ∃ ps, lambdaParamsOf fc p.dzn.itf ev false = .ok ps ∧ a = outAssign p ev ps) :=
  mapM_bind_pure h

theorem rerouteMcOut_lhs {fc : FC} {p : CppPortItf} {as : List Assign} (h : rerouteMcOutEvents fc p = .ok as)
    {a : Assign} (ha : a ∈ as) : a.lhs.obj = .arb p.target ∧ a.lhs.dir = .out := by
  obtain ⟨_, _, _, _, rfl⟩ := (mapM_bind_pure h).2 a ha
  exact ⟨rfl, rfl⟩

/-- `stdref_provides_out_events`, one event -/
def provOutAssign (p : CppPortItf) (ev : Event) : Assign :=
  { lhs := { obj := .enc p.name, dir := .out, ev := ev.name }, rhs := .ref { obj := .bnd p.target, dir := .out, ev := ev.name } }
/-- the encapsulee's out-events referenced to the arbitered port, one event -/
def mcEncOutAssign (p : CppPortItf) (ev : Event) : Assign :=
  { lhs := { obj := .enc p.name, dir := .out, ev := ev.name }, rhs := .ref { obj := .arb p.target, dir := .out, ev := ev.name } }
/-- `stdref_requires_in_events`, one event -/
def reqInAssign (p : CppPortItf) (ev : Event) : Assign :=
  { lhs := { obj := .enc p.name, dir := .in_, ev := ev.name }, rhs := .ref { obj := .bnd p.target, dir := .in_, ev := ev.name } }

/-- where a constructor assignment comes from -/
inductive Origin' (fc : FC) (pp rp : List CppPortItf) (a : Assign) : Prop
  | inEvent (p : CppPortItf) (hp : p ∈ mtsPorts pp) (ev : Event) (hev : ev ∈ inEvents p.dzn.itf) (ps : List LParam)
      (hps : lambdaParamsOf fc p.dzn.itf ev true = .ok ps) (e : a = inAssign p ev ps)
  | provOut (p : CppPortItf) (hp : p ∈ mtsPorts pp) (hmc : p.isMc = false) (ev : Event) (hev : ev ∈ outEvents p.dzn.itf)
      (e : a = provOutAssign p ev)
  | mcEncOut (p : CppPortItf) (hp : p ∈ mtsPorts pp) (hmc : p.isMc = true) (ev : Event) (hev : ev ∈ outEvents p.dzn.itf)
      (e : a = mcEncOutAssign p ev)
  | arbOut (p : CppPortItf) (hp : p ∈ mtsPorts pp) (hmc : p.isMc = true) (h : a.lhs.obj = .arb p.target ∧ a.lhs.dir = .out)
  | reqOut (p : CppPortItf) (hp : p ∈ mtsPorts rp) (ev : Event) (hev : ev ∈ outEvents p.dzn.itf) (ps : List LParam)
      (hps : lambdaParamsOf fc p.dzn.itf ev false = .ok ps) (e : a = outAssign p ev ps)
  | reqIn (p : CppPortItf) (hp : p ∈ mtsPorts rp) (ev : Event) (hev : ev ∈ inEvents p.dzn.itf) (e : a = reqInAssign p ev)

/-- every assignment of the generated constructor body is one of six kinds -/
theorem assign_origin (fc : FC) (sn : Str) (fac : Facilities) (pp rp : List CppPortItf) (sfns : Ids)
    (ctor : CppGen.Constructor) (assigns : List Assign)
    (h : createConstructor fc sn fac pp rp sfns = .ok (ctor, assigns)) (a : Assign) (ha : a ∈ assigns) :
    Origin' fc pp rp a := by
  obtain ⟨inPlain, outReq, inMc, outMc, h1, h2, h3, h4, rfl⟩ := createConstructor_ok h
  have hplain : ∀ {p}, p ∈ (mtsPorts pp).filter (!·.isMc) → p ∈ mtsPorts pp ∧ p.isMc = false :=
    fun hp => ⟨(List.mem_filter.mp hp).1, by simpa using (List.mem_filter.mp hp).2⟩
  have hmc : ∀ {p}, p ∈ (mtsPorts pp).filter (·.isMc) → p ∈ mtsPorts pp ∧ p.isMc = true := List.mem_filter.mp
  simp only [List.mem_append] at ha
  rcases ha with (((((ha | ha) | ha) | ha) | ha) | ha) | ha
  · obtain ⟨p, hp, as, hf, haas⟩ := mem_flatten_mapM h1 ha
    obtain ⟨ev, hev, ps, hps, e⟩ := (rerouteIn_ok hf).2 a haas
    exact .inEvent p (hplain hp).1 ev hev ps hps e
  · obtain ⟨p, hp, ev, hev, rfl⟩ := mem_flatten_map₂.mp ha
    exact .provOut p (hplain hp).1 (hplain hp).2 ev hev rfl
  · obtain ⟨p, hp, as, hf, haas⟩ := mem_flatten_mapM h3 ha
    obtain ⟨ev, hev, ps, hps, e⟩ := (rerouteIn_ok hf).2 a haas
    exact .inEvent p (hmc hp).1 ev hev ps hps e
  · obtain ⟨p, hp, as, hf, haas⟩ := mem_flatten_mapM h4 ha
    exact .arbOut p (hmc hp).1 (hmc hp).2 (rerouteMcOut_lhs hf haas)
  · obtain ⟨p, hp, ev, hev, rfl⟩ := mem_flatten_map₂.mp ha
    exact .mcEncOut p (hmc hp).1 (hmc hp).2 ev hev rfl
  · obtain ⟨p, hp, as, hf, haas⟩ := mem_flatten_mapM h2 ha
    obtain ⟨ev, hev, ps, hps, e⟩ := (rerouteOut_ok hf).2 a haas
    exact .reqOut p hp ev hev ps hps e
  · obtain ⟨p, hp, ev, hev, rfl⟩ := mem_flatten_map₂.mp ha
    exact .reqIn p hp ev hev rfl

/-- every in-event of every multi-threaded provides port has its rerouting assignment in the body -/
theorem in_event_assigned (fc : FC) (sn : Str) (fac : Facilities) (pp rp : List CppPortItf) (sfns : Ids)
    (ctor : CppGen.Constructor) (assigns : List Assign)
    (h : createConstructor fc sn fac pp rp sfns = .ok (ctor, assigns))
    (p : CppPortItf) (hp : p ∈ mtsPorts pp) (ev : Event) (hev : ev ∈ inEvents p.dzn.itf) :
    ∃ ps, lambdaParamsOf fc p.dzn.itf ev true = .ok ps ∧ inAssign p ev ps ∈ assigns := by
  obtain ⟨inPlain, outReq, inMc, outMc, h1, h2, h3, h4, rfl⟩ := createConstructor_ok h
  simp only [List.mem_append]
  cases hmc : p.isMc with
  | true =>
    obtain ⟨as, has, hf⟩ := Lem.mapM_mem_fwd h3 p (List.mem_filter.mpr ⟨hp, hmc⟩)
    obtain ⟨ps, hps, hin⟩ := (rerouteIn_ok hf).1 ev hev
    exact ⟨ps, hps, .inl (.inl (.inl (.inl (.inr (List.mem_flatten.mpr ⟨as, has, hin⟩)))))⟩
  | false =>
    obtain ⟨as, has, hf⟩ := Lem.mapM_mem_fwd h1 p (List.mem_filter.mpr ⟨hp, by rw [hmc]; rfl⟩)
    obtain ⟨ps, hps, hin⟩ := (rerouteIn_ok hf).1 ev hev
    exact ⟨ps, hps, .inl (.inl (.inl (.inl (.inl (.inl (List.mem_flatten.mpr ⟨as, has, hin⟩))))))⟩

section
variable {fc : FC} {sn : Str} {fac : Facilities} {pp rp : List CppPortItf} {sfns : Ids} {ctor : CppGen.Constructor}
  {assigns : List Assign} {p : CppPortItf} {ev : Event}

theorem inAssign_obj (p : CppPortItf) (ev : Event) (ps : List LParam) :
    (inAssign p ev ps).lhs.obj = .bnd p.target ∨ (inAssign p ev ps).lhs.obj = .arb p.target := by
  unfold inAssign
  cases p.isMc
  · exact .inl rfl
  · exact .inr rfl

theorem assign_of_lhs (h : createConstructor fc sn fac pp rp sfns = .ok (ctor, assigns)) {b : Assign} (hb : b ∈ assigns) :
    match b.lhs.obj, b.lhs.dir with
    | .bnd t, .in_ | .arb t, .in_ => ∃ p ∈ mtsPorts pp, p.target = t ∧ ∃ ev ∈ inEvents p.dzn.itf,
        ∃ ps, lambdaParamsOf fc p.dzn.itf ev true = .ok ps ∧ b = inAssign p ev ps
    | .bnd t, .out => ∃ p ∈ mtsPorts rp, p.target = t ∧ ∃ ev ∈ outEvents p.dzn.itf,
        ∃ ps, lambdaParamsOf fc p.dzn.itf ev false = .ok ps ∧ b = outAssign p ev ps
    | .arb t, .out => ∃ p ∈ mtsPorts pp, p.isMc = true ∧ p.target = t
    | .enc n, .in_ => ∃ p ∈ mtsPorts rp, p.name = n ∧ ∃ ev ∈ inEvents p.dzn.itf, b = reqInAssign p ev
    | .enc n, .out => ∃ p ∈ mtsPorts pp, p.name = n ∧ ∃ ev ∈ outEvents p.dzn.itf,
        (p.isMc = false ∧ b = provOutAssign p ev ∨ p.isMc = true ∧ b = mcEncOutAssign p ev)
    | .local_, _ => False := by
  cases assign_origin fc sn fac pp rp sfns ctor assigns h b hb with
  | inEvent p hp ev hev ps hps e =>
    subst e
    rcases inAssign_obj p ev ps with ho | ho <;> rw [ho] <;> exact ⟨p, hp, rfl, ev, hev, ps, hps, rfl⟩
  | provOut p hp hmc ev hev e => subst e; exact ⟨p, hp, rfl, ev, hev, .inl ⟨hmc, rfl⟩⟩
  | mcEncOut p hp hmc ev hev e => subst e; exact ⟨p, hp, rfl, ev, hev, .inr ⟨hmc, rfl⟩⟩
  | arbOut p hp hmc h => rw [h.1, h.2]; exact ⟨p, hp, hmc, rfl⟩
  | reqOut p hp ev hev ps hps e => subst e; exact ⟨p, hp, rfl, ev, hev, ps, hps, rfl⟩
  | reqIn p hp ev hev e => subst e; exact ⟨p, hp, rfl, ev, hev, rfl⟩

theorem req_out_assigned (h : createConstructor fc sn fac pp rp sfns = .ok (ctor, assigns))
    (hp : p ∈ mtsPorts rp) (hev : ev ∈ outEvents p.dzn.itf) :
    ∃ ps, lambdaParamsOf fc p.dzn.itf ev false = .ok ps ∧ outAssign p ev ps ∈ assigns := by
  obtain ⟨_, outReq, _, _, -, h2, -, -, rfl⟩ := createConstructor_ok h
  obtain ⟨as, has, hf⟩ := Lem.mapM_mem_fwd h2 p hp
  obtain ⟨ps, hps, hin⟩ := (rerouteOut_ok hf).1 ev hev
  simp only [List.mem_append]
  exact ⟨ps, hps, .inl (.inr (List.mem_flatten.mpr ⟨as, has, hin⟩))⟩

theorem prov_out_assigned (h : createConstructor fc sn fac pp rp sfns = .ok (ctor, assigns))
    (hp : p ∈ mtsPorts pp) (hmc : p.isMc = false) (hev : ev ∈ outEvents p.dzn.itf) : provOutAssign p ev ∈ assigns := by
  obtain ⟨_, _, _, _, -, -, -, -, rfl⟩ := createConstructor_ok h
  simp only [List.mem_append]
  exact .inl (.inl (.inl (.inl (.inl (.inr (mem_flatten_map₂.mpr
    ⟨p, List.mem_filter.mpr ⟨hp, by rw [hmc]; rfl⟩, ev, hev, rfl⟩))))))

end

/-! ### the slot an assignment writes, the event a slot belongs to -/

theorem find?_unique {α} (l : List α) (q : α → Bool) (x : α) (hx : x ∈ l) (hq : q x = true)
    (hu : ∀ y ∈ l, q y = true → y = x) : l.find? q = some x := Lem.find?_unique hx hq hu

theorem resolveSlot_obj (s : Slot) : (resolveSlot s [] []).dir = s.dir ∧ (resolveSlot s [] []).ev = s.ev ∧
    (resolveSlot s [] []).obj = resolveObj s.obj [] [] := ⟨rfl, rfl, rfl⟩

theorem evDirOf_in (ev : Event) (h : ev.dir = .in_) : evDirOf ev = .in_ := if_pos h

theorem mem_inEvents (i : InterfaceD) (ev : Event) (h : ev ∈ inEvents i) : ev ∈ i.events ∧ ev.dir = .in_ :=
  ⟨(List.mem_filter.mp h).1, of_decide_eq_true (List.mem_filter.mp h).2⟩

theorem inEvents_dir {i : InterfaceD} {ev : Event} (h : ev ∈ inEvents i) : ev ∈ i.events ∧ evDirOf ev = .in_ :=
  ⟨(mem_inEvents i ev h).1, evDirOf_in ev (mem_inEvents i ev h).2⟩

theorem outEvents_dir {i : InterfaceD} {ev : Event} (h : ev ∈ outEvents i) : ev ∈ i.events ∧ evDirOf ev = .out := by
  refine ⟨(List.mem_filter.mp h).1, ?_⟩
  unfold evDirOf
  rw [of_decide_eq_true (List.mem_filter.mp h).2]
  rfl

/-- the event of a slot: the port is found by the key the slot's object carries, the event by name and direction -/
theorem findEvent_of {ps : List CppPortItf} {p : CppPortItf} {ev : Event} {o : PortObj} {d : EvDir}
    (key : CppPortItf → Str)
    (ho : o = .enc (key p) ∧ key = CppPortItf.name ∨ (o = .bnd (key p) ∨ o = .arb (key p)) ∧ key = CppPortItf.target)
    (hp : p ∈ ps) (hinj : ∀ q ∈ ps, key q = key p → q = p)
    (hev : ev ∈ p.dzn.itf.events) (hd : evDirOf ev = d)
    (hevu : ∀ e ∈ p.dzn.itf.events, e.name = ev.name → evDirOf e = d → e = ev) :
    findEvent ps ⟨o, d, ev.name⟩ = some ev := by
  have hport : ps.find? (fun q => key q = key p) = some p :=
    Lem.find?_unique hp (decide_eq_true rfl) fun q hq hk => hinj q hq (of_decide_eq_true hk)
  have hevent : p.dzn.itf.events.find? (fun e => e.name = ev.name ∧ evDirOf e = d) = some ev :=
    Lem.find?_unique hev (decide_eq_true ⟨rfl, hd⟩) fun e he hq =>
      hevu e he (of_decide_eq_true hq).1 (of_decide_eq_true hq).2
  unfold findEvent
  rcases ho with ⟨rfl, rfl⟩ | ⟨rfl | rfl, rfl⟩ <;> exact (congrArg (Option.bind · _) hport).trans hevent

/-! ### the generated constructor, end to end -/

section
variable {fc : FC} {sn : Str} {fac : Facilities} {pp rp : List CppPortItf} {sfns : Ids} {ctor : CppGen.Constructor}
  {assigns : List Assign} {ir : ShellIR} {allPorts : List (Port × InterfaceD)} {gi : Option Nat} {pump runtime : Bool}
  {name : Str} {extra : Bool} {w : World}

theorem enc_slot_free (h : createConstructor fc sn fac pp rp sfns = .ok (ctor, assigns)) {n : Str} {d : EvDir}
    (hn : ∀ q ∈ (match d with | .in_ => mtsPorts rp | .out => mtsPorts pp : List CppPortItf), q.name ≠ n)
    {b : Assign} (hb : b ∈ assigns) {e : Str} : b.lhs ≠ ⟨.enc n, d, e⟩ := by
  intro hl
  have o := assign_of_lhs h hb
  rw [hl] at o
  cases d <;> obtain ⟨q, hq, hqn, -⟩ := o <;> exact hn q hq hqn

theorem generated_in_slots (h : createConstructor fc sn fac ir.provides ir.requires sfns = .ok (ctor, ir.ctorAssigns))
    {p : CppPortItf} (hp : p ∈ mtsPorts ir.provides) {ev : Event} (hev : ev ∈ inEvents p.dzn.itf)
    (hinj : ∀ q ∈ ir.provides ++ ir.requires, q.target = p.target → q = p)
    (hnames : ∀ q ∈ ir.requires, q.name ≠ p.name)
    (hevu : ∀ e ∈ p.dzn.itf.events, e.name = ev.name → evDirOf e = .in_ → e = ev)
    (hpa : (p.dzn.port, p.dzn.itf) ∈ allPorts) (hu : UniqueEvents allPorts) (hdir : p.dzn.port.dir = .provides)
    (hw : construct ir allPorts gi pump runtime none name extra = .ok w) :
    ∃ ps, lambdaParamsOf fc p.dzn.itf ev true = .ok ps ∧ ps.map (·.name) = ev.formals.map (·.name) ∧
      w.get (resolveSlot (inAssign p ev ps).lhs [] []) = some (.ir (inAssign p ev ps).rhs ev [] []) ∧
      w.get ⟨.enc p.name, .in_, ev.name⟩ = some (.scripted .comp p.name ev) := by
  obtain ⟨hevm, hin⟩ := inEvents_dir hev
  obtain ⟨ps, hps, hmem⟩ := in_event_assigned fc sn fac _ _ sfns ctor _ h p hp ev hev
  have hobj := inAssign_obj p ev ps
  have hfind : findEvent (ir.provides ++ ir.requires) (inAssign p ev ps).lhs = some ev :=
    findEvent_of CppPortItf.target (.inr ⟨hobj, rfl⟩)
      (List.mem_append_left ir.requires (mem_mtsPorts.mp hp).1) hinj hevm hin hevu
  refine ⟨ps, hps, lambdaParams_names fc p.dzn.itf ev true ps hps, ctor_slot hw hmem hfind fun b hb hl => ?_,
    comp_slot hw hu hpa hevm hin (.inl ⟨hdir, rfl⟩) fun b hb =>
      enc_slot_free h (fun q hq => hnames q (mem_mtsPorts.mp hq).1) hb⟩
  -- whatever is assigned to the boundary (or arbitered) slot is the rerouting of `ev`: no other port shares the
  -- member, no other in-event the name
  have o := assign_of_lhs h hb
  have key : ∃ q ∈ mtsPorts ir.provides, q.target = p.target ∧ ∃ ev' ∈ inEvents q.dzn.itf, ∃ ps',
      lambdaParamsOf fc q.dzn.itf ev' true = .ok ps' ∧ b = inAssign q ev' ps' := by
    rcases hobj with ho | ho <;> rw [hl, ho] at o <;> exact o
  obtain ⟨q, hq, hqt, ev', hev', ps', hps', rfl⟩ := key
  cases hinj q (List.mem_append_left _ (mem_mtsPorts.mp hq).1) hqt
  cases hevu ev' (inEvents_dir hev').1 (congrArg Slot.ev hl) (inEvents_dir hev').2
  cases hps.symm.trans hps'
  rfl

end

/-- **C01 for the generated constructor** (environment → component, multi-threaded provides port
    that is not the multi-client port).  Whatever the model and the configuration: if
    `create_constructor` succeeds, then in the shell constructed from the wiring it emits, a
    client's call of any in-event `ev` of the port on the boundary member is executed by the
    wrapped component's same-named event of the same-named port exactly once — one observation, in
    dispatcher context, arguments intact and in declared order — and the component's reply and
    out/inout values are carried back.
    Hypotheses are Dezyne's own well-formedness rules (event names unique in an interface, formal
    names unique in an event, port names unique in a component) and the absence of the recorded
    name collision K-2 (two ports whose capitalised names coincide share one boundary member). -/
theorem generated_forwards_in_event (fc : FC) (sn : Str) (fac : Facilities) (pp rp : List CppPortItf) (sfns : Ids)
    (ctor : CppGen.Constructor) (assigns : List Assign)
    (h : createConstructor fc sn fac pp rp sfns = .ok (ctor, assigns))
    (ir : ShellIR) (hpp : ir.provides = pp) (hrp : ir.requires = rp) (has : ir.ctorAssigns = assigns)
    (p : CppPortItf) (hp : p ∈ mtsPorts pp) (hmc : p.isMc = false) (ev : Event) (hev : ev ∈ inEvents p.dzn.itf)
    (hinj : ∀ q ∈ pp ++ rp, q.target = p.target → q = p)
    (hnames : ∀ q ∈ rp, q.name ≠ p.name)
    (hevu : ∀ e ∈ p.dzn.itf.events, e.name = ev.name → evDirOf e = .in_ → e = ev)
    (hfn : (ev.formals.map (·.name)).Nodup)
    (allPorts : List (Port × InterfaceD)) (hpa : (p.dzn.port, p.dzn.itf) ∈ allPorts) (hu : UniqueEvents allPorts)
    (hdir : p.dzn.port.dir = .provides)
    (gi : Option Nat) (pump runtime : Bool) (name : Str) (extra : Bool) (n : Nat)
    (hf : ctorCheck ir pump runtime = none)
    (args : List Val) (hlen : ev.formals.length = args.length) :
    ∃ w ps, construct ir allPorts gi pump runtime none name extra = .ok w ∧
      ps.map (·.name) = ev.formals.map (·.name) ∧
      invoke (n + 3) w ⟨.bnd p.target, .in_, ev.name⟩ args =
        ({ w with shellCalls := w.shellCalls + 1, pumpTouched := true, executed := w.executed + 1,
                  out := obsLine .comp p.name ev args true :: w.out },
         .ok (if isVoid ev then none else some (w.reply true p.name ev.name))
             (writeBack ps args (ps.map (·.name)) (rewritten ev args))) := by
  subst hpp hrp has
  obtain ⟨w, hw, hq, -, -⟩ := constructed_store ir allPorts gi pump runtime name extra hf
  obtain ⟨ps, hps, hnm, hb, hc⟩ := generated_in_slots h hp hev hinj hnames hevu hpa hu hdir hw
  refine ⟨w, ps, hw, hnm, ?_⟩
  rw [inAssign, hmc, formalNames, ← hnm] at hb
  exact env_to_comp_mts_provides w n p.target p.name ev ps (inFormalNames ev) args hq hb hc
    ((length_eq_of_map_eq hnm).trans hlen) (hnm ▸ hfn)

/-! ### requires ports: out-events a peer raises on the boundary -/

/-- **C01 for the generated constructor** (peer → component, multi-threaded requires port): the
    out-event a peer raises on the boundary member is queued with its arguments — nothing is
    observed, the call returns — and when the dispatcher runs it arrives at the wrapped component's
    same-named event of the same-named port exactly once, with the values it had at call time.
    `hallin`: an out-event has only in-parameters (the parser refuses anything else, C15). -/
theorem generated_forwards_requires_out (fc : FC) (sn : Str) (fac : Facilities) (pp rp : List CppPortItf) (sfns : Ids)
    (ctor : CppGen.Constructor) (assigns : List Assign)
    (h : createConstructor fc sn fac pp rp sfns = .ok (ctor, assigns))
    (ir : ShellIR) (hpp : ir.provides = pp) (hrp : ir.requires = rp) (has : ir.ctorAssigns = assigns)
    (p : CppPortItf) (hp : p ∈ mtsPorts rp) (ev : Event) (hev : ev ∈ outEvents p.dzn.itf)
    (hinj : ∀ q ∈ pp ++ rp, q.target = p.target → q = p)
    (hnames : ∀ q ∈ pp, q.name ≠ p.name)
    (hevu : ∀ e ∈ p.dzn.itf.events, e.name = ev.name → evDirOf e = .out → e = ev)
    (hfn : (ev.formals.map (·.name)).Nodup) (hallin : ∀ f ∈ ev.formals, f.dir = .in_)
    (allPorts : List (Port × InterfaceD)) (hpa : (p.dzn.port, p.dzn.itf) ∈ allPorts) (hu : UniqueEvents allPorts)
    (hdir : p.dzn.port.dir = .requires)
    (gi : Option Nat) (pump runtime : Bool) (name : Str) (extra : Bool) (n : Nat)
    (hf : ctorCheck ir pump runtime = none)
    (args : List Val) (hlen : ev.formals.length = args.length) :
    ∃ w, construct ir allPorts gi pump runtime none name extra = .ok w ∧
      let w1 : World := { w with posted := w.posted + 1, pumpTouched := true,
                                 queue := [{ callee := ⟨.enc p.name, .out, ev.name⟩, args := args, dangling := false }] }
      invoke (n + 1) w ⟨.bnd p.target, .out, ev.name⟩ args = (w1, .ok none args) ∧
      drain (n + 3) w1 =
        ({ w with posted := w.posted + 1, pumpTouched := true, queue := [], executed := w.executed + 1,
                  out := obsLine .comp p.name ev args true :: w.out }, none) := by
  subst hpp hrp has
  obtain ⟨hevm, hout⟩ := outEvents_dir hev
  obtain ⟨ps, hps, hmem⟩ := req_out_assigned h hp hev
  have hnm : ps.map (·.name) = ev.formals.map (·.name) := lambdaParams_names fc p.dzn.itf ev false ps hps
  have hinF : inFormalNames ev = ev.formals.map (·.name) := inFormalNames_of_all_in hallin
  have hpm := List.mem_append_right ir.provides (mem_mtsPorts.mp hp).1
  obtain ⟨w, hw, hq, -, -⟩ := constructed_store ir allPorts gi pump runtime name extra hf
  refine ⟨w, hw, ?_⟩
  have hb := ctor_slot hw hmem (findEvent_of CppPortItf.target (.inr ⟨.inl rfl, rfl⟩) hpm hinj hevm hout hevu)
    fun b hb hl => by
      -- whatever is assigned to the boundary slot is the posting of `ev`: no other port shares the member, no
      -- other out-event the name
      have o := assign_of_lhs h hb
      rw [hl] at o
      obtain ⟨q, hq, hqt, ev', hev', ps', hps', rfl⟩ := o
      cases hinj q (List.mem_append_right _ (mem_mtsPorts.mp hq).1) hqt
      cases hevu ev' (outEvents_dir hev').1 (congrArg Slot.ev hl) (outEvents_dir hev').2
      cases hps.symm.trans hps'
      rfl
  have hc := comp_slot hw hu hpa hevm hout (.inr ⟨hdir, rfl⟩) fun b hb =>
    enc_slot_free h (fun q hq => hnames q (mem_mtsPorts.mp hq).1) hb
  rw [outAssign, formalNames, hinF, ← hnm] at hb
  exact requires_out_posted_then_delivered w n p.target p.name ev ps args hq hb hc
    ((length_eq_of_map_eq hnm).trans hlen) (hnm ▸ hfn)

/-! ### provides ports: out-events the component raises -/

/-- **C01 for the generated constructor** (component → environment, multi-threaded provides port
    that is not the multi-client port): once the user has bound the out-event `ev` of the boundary
    port, an out-event the wrapped component raises on its port `p` reaches exactly that handler,
    once, with the arguments intact. -/
theorem generated_forwards_provides_out (fc : FC) (sn : Str) (fac : Facilities) (pp rp : List CppPortItf) (sfns : Ids)
    (ctor : CppGen.Constructor) (assigns : List Assign)
    (h : createConstructor fc sn fac pp rp sfns = .ok (ctor, assigns))
    (ir : ShellIR) (hpp : ir.provides = pp) (hrp : ir.requires = rp) (has : ir.ctorAssigns = assigns)
    (p : CppPortItf) (hp : p ∈ mtsPorts pp) (hmc : p.isMc = false) (ev : Event) (hev : ev ∈ outEvents p.dzn.itf)
    (hninj : ∀ q ∈ pp ++ rp, q.name = p.name → q = p)
    (hevu : ∀ e ∈ p.dzn.itf.events, e.name = ev.name → evDirOf e = .out → e = ev)
    (allPorts : List (Port × InterfaceD))
    (gi : Option Nat) (pump runtime : Bool) (name : Str) (extra : Bool) (n : Nat)
    (hf : ctorCheck ir pump runtime = none)
    (args : List Val) :
    ∃ w, construct ir allPorts gi pump runtime none name extra = .ok w ∧
      let w' := w.set ⟨.bnd p.target, .out, ev.name⟩ (.scripted .env p.name ev)     -- the user's binding
      invoke (n + 2) w' ⟨.enc p.name, .out, ev.name⟩ args =
        ((scriptedRun w' .env p.name ev args).1,
         .ok (scriptedRun w' .env p.name ev args).2.1 (scriptedRun w' .env p.name ev args).2.2) := by
  subst hpp hrp has
  obtain ⟨hevm, hout⟩ := outEvents_dir hev
  have hpm := List.mem_append_left ir.requires (mem_mtsPorts.mp hp).1
  obtain ⟨w, hw⟩ : ∃ w, construct ir allPorts gi pump runtime none name extra = .ok w := construct_isOk.mpr hf
  refine ⟨w, hw, ?_⟩
  have he := ctor_slot hw (prov_out_assigned h hp hmc hev)
    (findEvent_of CppPortItf.name (.inl ⟨rfl, rfl⟩) hpm hninj hevm hout hevu) fun b hb hl => by
      -- whatever is assigned to the component's slot is the reference of `ev` to the boundary member: no other
      -- port has the name, no other out-event the name, and the port is not multi-client
      have o := assign_of_lhs h hb
      rw [hl] at o
      obtain ⟨q, hq, hqn, ev', hev', hb'⟩ := o
      cases hninj q (List.mem_append_left _ (mem_mtsPorts.mp hq).1) hqn
      rcases hb' with ⟨-, rfl⟩ | ⟨hqmc, -⟩
      · cases hevu ev' (outEvents_dir hev').1 (congrArg Slot.ev hl) (outEvents_dir hev').2
        rfl
      · rw [hmc] at hqmc; cases hqmc
  have hne : (⟨.enc p.name, .out, ev.name⟩ : RSlot) ≠ ⟨.bnd p.target, .out, ev.name⟩ := nofun
  exact comp_to_env_mts_provides _ n p.target p.name ev args
    ((get_set_other hne).trans he) get_set_same

/-! ### from `Builder.build` to the generated constructor -/

/-- what a successful `buildShell` went through -/
theorem buildShell_inv (fc : FC) (cfg : Config) (s : ShellFiles) (h : buildShell fc cfg = .ok s) :
    ∃ enc de pp rp ctor,
      createDznElements cfg fc enc = .ok de ∧
      de.provides.mapM (fun d => createCppPortItf d (getBasename cfg.dezyneFilename ++ cfg.suffix) (distillateNs cfg.pfx).1) = .ok pp ∧
      de.requires.mapM (fun d => createCppPortItf d (getBasename cfg.dezyneFilename ++ cfg.suffix) (distillateNs cfg.pfx).1) = .ok rp ∧
      createConstructor fc (getBasename cfg.dezyneFilename ++ cfg.suffix)
        (createFacilities cfg.origin (getBasename cfg.dezyneFilename ++ cfg.suffix)) pp rp (distillateNs cfg.pfx).1 = .ok (ctor, s.ir.ctorAssigns) ∧
      s.ir.provides = pp ∧ s.ir.requires = rp ∧ s.ir.origin = cfg.origin ∧
      s.ir.structName = getBasename cfg.dezyneFilename ++ cfg.suffix ∧ s.allPorts = de.allPorts := by
  obtain ⟨B⟩ := buildShell_ok h
  exact ⟨B.enc, B.de, _, _, B.ctor, B.elems, B.provides, B.requires, B.ctorOk, rfl, rfl, B.origin, B.structName, B.allPorts⟩

/-- every exposed port descriptor of a successful `create_dzn_elements` is listed, with its interface,
    among `allPorts`, and stands on its own side -/
theorem elements_in_allPorts (cfg fc enc de) (h : createDznElements cfg fc enc = .ok de) :
    (∀ d ∈ de.provides ++ de.requires, (d.port, d.itf) ∈ de.allPorts) ∧
    (∀ d ∈ de.provides, d.port.dir = .provides) ∧ (∀ d ∈ de.requires, d.port.dir = .requires ∧ d.mc = none) := by
  obtain ⟨sems, E⟩ := createDznElements_ok h
  obtain ⟨hD, hprov, hreq⟩ := portLoop_sound E.ports
  exact ⟨fun d hd => (E.allPorts _ _).mpr ⟨(hD d hd).1, (hD d hd).2.itf⟩, hprov,
    fun d hd => ⟨hreq d hd, ((hD d (List.mem_append_right _ hd)).2.requires (hreq d hd)).2⟩⟩

theorem createCppPortItf_dzn (d : DznPortItf) (sn : Str) (sfns : Ids) (p : CppPortItf)
    (h : createCppPortItf d sn sfns = .ok p) : p.dzn = d := Lem.createCppPortItf_dzn h

theorem build_inv (fc : FC) (cfg : Config) (b : BuildResult) (h : build fc cfg = .ok b) :
    ∃ enc de pp rp ctor sn fac sfns,
      createDznElements cfg fc enc = .ok de ∧
      de.provides.mapM (fun d => createCppPortItf d sn sfns) = .ok pp ∧
      de.requires.mapM (fun d => createCppPortItf d sn sfns) = .ok rp ∧
      createConstructor fc sn fac pp rp sfns = .ok (ctor, b.ir.ctorAssigns) ∧
      b.ir.provides = pp ∧ b.ir.requires = rp ∧ b.allPorts = de.allPorts := by
  obtain ⟨s, ⟨B⟩, rfl⟩ := build_ok h
  exact ⟨B.enc, B.de, _, _, B.ctor, _, _, _, B.elems, B.provides, B.requires, B.ctorOk, rfl, rfl, B.allPorts⟩

theorem port_of_build {fc : FC} {cfg : Config} {b : BuildResult} (h : build fc cfg = .ok b) {p : CppPortItf} :
    (p ∈ b.ir.provides → (p.dzn.port, p.dzn.itf) ∈ b.allPorts ∧ p.dzn.port.dir = .provides) ∧
    (p ∈ b.ir.requires → (p.dzn.port, p.dzn.itf) ∈ b.allPorts ∧ p.dzn.port.dir = .requires) := by
  obtain ⟨s, ⟨B⟩, rfl⟩ := build_ok h
  obtain ⟨hall, hprov, hreq⟩ := elements_in_allPorts cfg fc B.enc B.de B.elems
  constructor <;> intro hp
  · have hd : p.dzn ∈ B.de.provides := cppPorts_dzn B.provides ▸ List.mem_map_of_mem hp
    exact ⟨B.allPorts ▸ hall _ (List.mem_append_left _ hd), hprov _ hd⟩
  · have hd : p.dzn ∈ B.de.requires := cppPorts_dzn B.requires ▸ List.mem_map_of_mem hp
    exact ⟨B.allPorts ▸ hall _ (List.mem_append_right _ hd), (hreq _ hd).1⟩

/-- **C01 at the level of `Builder.build`** (environment → component): for every model and
    configuration the builder accepts, in the shell constructed from the generated wiring a client's
    call of an in-event on a multi-threaded (non multi-client) provides port is executed by the
    wrapped component's same-named event of the same-named port exactly once, in dispatcher
    context, arguments intact and in declared order, reply and out/inout values carried back.
    Hypotheses: Dezyne's well-formedness rules on the parsed model (unique event names per
    interface, unique formal names, unique port names) and no boundary-member collision (K-2). -/
theorem build_forwards_in_event (fc : FC) (cfg : Config) (b : BuildResult) (h : build fc cfg = .ok b)
    (p : CppPortItf) (hp : p ∈ b.ir.provides) (hsem : p.dzn.sem = .mts) (hmc : p.isMc = false)
    (ev : Event) (hev : ev ∈ inEvents p.dzn.itf)
    (hinj : ∀ q ∈ b.ir.provides ++ b.ir.requires, q.target = p.target → q = p)
    (hnames : ∀ q ∈ b.ir.requires, q.name ≠ p.name)
    (hevu : ∀ e ∈ p.dzn.itf.events, e.name = ev.name → evDirOf e = .in_ → e = ev)
    (hfn : (ev.formals.map (·.name)).Nodup)
    (hu : UniqueEvents b.allPorts)
    (pump runtime : Bool) (name : Str) (extra : Bool) (n : Nat)
    (hf : ctorCheck b.ir pump runtime = none)
    (args : List Val) (hlen : ev.formals.length = args.length) :
    ∃ w ps, construct b.ir b.allPorts b.grantIndex pump runtime none name extra = .ok w ∧
      ps.map (·.name) = ev.formals.map (·.name) ∧
      invoke (n + 3) w ⟨.bnd p.target, .in_, ev.name⟩ args =
        ({ w with shellCalls := w.shellCalls + 1, pumpTouched := true, executed := w.executed + 1,
                  out := obsLine .comp p.name ev args true :: w.out },
         .ok (if isVoid ev then none else some (w.reply true p.name ev.name))
             (writeBack ps args (ps.map (·.name)) (rewritten ev args))) := by
  obtain ⟨hpa, hdir⟩ := (port_of_build h).1 hp
  obtain ⟨s, ⟨B⟩, rfl⟩ := build_ok h
  exact generated_forwards_in_event fc _ _ _ _ _ B.ctor _ B.ctorOk s.ir rfl rfl rfl p
    (mem_mtsPorts.mpr ⟨hp, hsem⟩) hmc ev hev hinj hnames hevu hfn s.allPorts hpa hu hdir s.grantIndex
    pump runtime name extra n hf args hlen

/-- **C01 at the level of `Builder.build`** (peer → component, multi-threaded requires port) -/
theorem build_forwards_requires_out (fc : FC) (cfg : Config) (b : BuildResult) (h : build fc cfg = .ok b)
    (p : CppPortItf) (hp : p ∈ b.ir.requires) (hsem : p.dzn.sem = .mts)
    (ev : Event) (hev : ev ∈ outEvents p.dzn.itf)
    (hinj : ∀ q ∈ b.ir.provides ++ b.ir.requires, q.target = p.target → q = p)
    (hnames : ∀ q ∈ b.ir.provides, q.name ≠ p.name)
    (hevu : ∀ e ∈ p.dzn.itf.events, e.name = ev.name → evDirOf e = .out → e = ev)
    (hfn : (ev.formals.map (·.name)).Nodup) (hallin : ∀ f ∈ ev.formals, f.dir = .in_)
    (hu : UniqueEvents b.allPorts)
    (pump runtime : Bool) (name : Str) (extra : Bool) (n : Nat)
    (hf : ctorCheck b.ir pump runtime = none)
    (args : List Val) (hlen : ev.formals.length = args.length) :
    ∃ w, construct b.ir b.allPorts b.grantIndex pump runtime none name extra = .ok w ∧
      let w1 : World := { w with posted := w.posted + 1, pumpTouched := true,
                                 queue := [{ callee := ⟨.enc p.name, .out, ev.name⟩, args := args, dangling := false }] }
      invoke (n + 1) w ⟨.bnd p.target, .out, ev.name⟩ args = (w1, .ok none args) ∧
      drain (n + 3) w1 =
        ({ w with posted := w.posted + 1, pumpTouched := true, queue := [], executed := w.executed + 1,
                  out := obsLine .comp p.name ev args true :: w.out }, none) := by
  obtain ⟨hpa, hdir⟩ := (port_of_build h).2 hp
  obtain ⟨s, ⟨B⟩, rfl⟩ := build_ok h
  exact generated_forwards_requires_out fc _ _ _ _ _ B.ctor _ B.ctorOk s.ir rfl rfl rfl p
    (mem_mtsPorts.mpr ⟨hp, hsem⟩) ev hev hinj hnames hevu hfn hallin s.allPorts hpa hu hdir
    s.grantIndex pump runtime name extra n hf args hlen

/-- **C01 at the level of `Builder.build`** (component → environment, multi-threaded provides port) -/
theorem build_forwards_provides_out (fc : FC) (cfg : Config) (b : BuildResult) (h : build fc cfg = .ok b)
    (p : CppPortItf) (hp : p ∈ b.ir.provides) (hsem : p.dzn.sem = .mts) (hmc : p.isMc = false)
    (ev : Event) (hev : ev ∈ outEvents p.dzn.itf)
    (hninj : ∀ q ∈ b.ir.provides ++ b.ir.requires, q.name = p.name → q = p)
    (hevu : ∀ e ∈ p.dzn.itf.events, e.name = ev.name → evDirOf e = .out → e = ev)
    (pump runtime : Bool) (name : Str) (extra : Bool) (n : Nat)
    (hf : ctorCheck b.ir pump runtime = none)
    (args : List Val) :
    ∃ w, construct b.ir b.allPorts b.grantIndex pump runtime none name extra = .ok w ∧
      let w' := w.set ⟨.bnd p.target, .out, ev.name⟩ (.scripted .env p.name ev)
      invoke (n + 2) w' ⟨.enc p.name, .out, ev.name⟩ args =
        ((scriptedRun w' .env p.name ev args).1,
         .ok (scriptedRun w' .env p.name ev args).2.1 (scriptedRun w' .env p.name ev args).2.2) := by
  obtain ⟨s, ⟨B⟩, rfl⟩ := build_ok h
  exact generated_forwards_provides_out fc _ _ _ _ _ B.ctor _ B.ctorOk s.ir rfl rfl rfl p
    (mem_mtsPorts.mpr ⟨hp, hsem⟩) hmc ev hev hninj hevu
    s.allPorts s.grantIndex pump runtime name extra n hf args

end C01
