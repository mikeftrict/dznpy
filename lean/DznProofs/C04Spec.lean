/-
  C04 (full refinement for the specified Deselect) — if `Deselect(id)` clears the selection only when
  `id` is the selected client, the generated selector refines the specification's holder for *every*
  history of claims and releases by registered clients (no side condition).  The current `Deselect`
  is that rule exactly where nobody releases a claim held by somebody else, which gives the partial
  refinement of the generated selector; together with `C04.foreign_release_witness` this isolates the
  recorded finding D-9 to that one rule.
-/
import DznModel.Sem
import DznProofs.C04
open Sem

namespace C04

/-- the specified rule: only the holder's own selection is cleared -/
def deselectSpec (s : Selector) (id : Str) : Selector :=
  if s.clients.contains id && s.selected = some id then { s with selected := none } else s

def selStepSpec (s : Selector) : Op → Selector
  | .claim c true => s.select c
  | .claim _ false => s
  | .release c => deselectSpec s c

theorem selStepSpec_clients (s : Selector) (op : Op) : (selStepSpec s op).clients = s.clients := by
  rcases op with ⟨c, _ | _⟩ | c
  · rfl
  all_goals exact iteInduction (motive := fun x : Selector => x.clients = s.clients) (fun _ => rfl) (fun _ => rfl)

theorem selStepSpec_selected (s : Selector) (op : Op) (hreg : ∀ c ∈ clientsOf [op], c ∈ s.clients) :
    (selStepSpec s op).selected = specStep s.selected op := by
  rcases op with ⟨c, _ | _⟩ | c
  · rfl
  · simp [selStepSpec, specStep, Selector.select, hreg c List.mem_cons_self]
  · by_cases hs : s.selected = some c <;>
      simp [selStepSpec, specStep, deselectSpec, hs, hreg c List.mem_cons_self]

/-- **refinement at full strength for the specified Deselect** -/
theorem refines_specified (s : Selector) (ops : List Op) (hreg : ∀ c ∈ clientsOf ops, c ∈ s.clients) :
    (ops.foldl selStepSpec s).selected = ops.foldl specStep s.selected ∧
    (ops.foldl selStepSpec s).clients = s.clients := by
  induction ops generalizing s with
  | nil => exact ⟨rfl, rfl⟩
  | cons op r ih =>
    obtain ⟨hop, hr⟩ := clientsOf_cons hreg
    have := ih (selStepSpec s op) (by rwa [selStepSpec_clients])
    rwa [selStepSpec_selected s op hop, selStepSpec_clients] at this

/-- on the witness history of D-9 the specified rule keeps the holder -/
example :
    let s : Selector := { mv := L "m_ppApi", port := L "api", clients := [L "A", L "B"] }
    ([Op.claim (L "A") true, Op.release (L "B")].foldl selStepSpec s).selected = some (L "A") := by decide

theorem deselect_eq_spec (s : Selector) (c : Str) (h : s.selected = none ∨ s.selected = some c) :
    s.deselect c = deselectSpec s c := by
  obtain ⟨mv, port, clients, selected, fc⟩ := s
  rcases h with h | h <;> cases h <;> simp [deselectSpec, Selector.deselect]

/-- the two rules agree whenever the releasing client is the holder or nobody holds the claim: the
    side condition of `refines_partial` is exactly where they differ -/
theorem rules_agree (s : Selector) (c : Str) (h : s.selected = none ∨ s.selected = some c) :
    (deselectSpec s c).selected = (s.deselect c).selected := by
  rw [deselect_eq_spec s c h]

theorem selStep_eq_spec (s : Selector) (ops : List Op) (hreg : ∀ c ∈ clientsOf ops, c ∈ s.clients)
    (hnf : NoForeignRelease s.selected ops) : ops.foldl selStep s = ops.foldl selStepSpec s := by
  induction ops generalizing s with
  | nil => rfl
  | cons op r ih =>
    obtain ⟨hop, hr⟩ := clientsOf_cons hreg
    have hstep : selStep s op = selStepSpec s op := by
      rcases op with ⟨c, _ | _⟩ | c
      · rfl
      · rfl
      · exact deselect_eq_spec s c hnf.1
    rw [List.foldl_cons, List.foldl_cons, hstep]
    exact ih _ (by rwa [selStepSpec_clients]) (by rw [selStepSpec_selected s op hop]; exact hnf.2)

/-- **refinement (partial)**: for every history of claims and releases by registered clients in
    which nobody releases a claim held by somebody else, the generated selector's selection *is*
    the specification's holder — for any number of clients and any history length.
    The full statement (without `NoForeignRelease`) is false of the current code: see
    `foreign_release_witness`. -/
theorem refines_partial (s : Selector) (ops : List Op)
    (hreg : ∀ c ∈ clientsOf ops, c ∈ s.clients)
    (hnf : NoForeignRelease s.selected ops) :
    (ops.foldl selStep s).selected = ops.foldl specStep s.selected ∧
    (ops.foldl selStep s).clients = s.clients := by
  rw [selStep_eq_spec s ops hreg hnf]
  exact refines_specified s ops hreg

end C04
