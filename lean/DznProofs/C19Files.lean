/-
  C19 (file-level clause) — in the generated shell files, changing only the copyright or the
  creator information changes nothing but comment lines.
-/
import DznModel.ShellBuild
import DznModel.SpecGen
import DznModel.SpecText
import DznProofs.Lemmas.Text
import DznProofs.Lemmas.Basic
import DznProofs.C19
open Py Text Ast CppGen Shell Lem

namespace C19

theorem codeOf_mk_list (l : List Content) :
    Spec.codeOf (TB.mk' (.list l)).toStr = (contentLines (.list l)).filter Spec.isCodeLine :=
  congrArg (List.filter Spec.isCodeLine) (splitlines_tbStr [] _ (flatMap_itemLines_breakFree _))

theorem not_code_of_slashes {r : Str} (h : (L "//").isPrefixOf r = true) : Spec.isCodeLine r = false := by
  obtain ⟨rest, rfl⟩ := List.isPrefixOf_iff_prefix.mp h
  -- a line that starts with `/` has nothing to strip on the left
  have : lstrip (L "//" ++ rest) = L "//" ++ rest := rfl
  rw [Spec.isCodeLine, this, h, Bool.not_true, Bool.and_false]

theorem comment_no_code {X : List Str} (hX : ∀ l ∈ X, Spec.breakFree l = true) :
    ((flatten false (.comment X)).flatMap itemLines).filter Spec.isCodeLine = [] := by
  -- the comment's string splits back into its rendered lines, and each of them starts with `//`
  rw [flatten, flatMap_itemLines_obj, commentStr, splitlines_tbStr [] (commentLines X) (commentLines_breakFree X hX),
    List.nil_append, List.filter_eq_nil_iff]
  intro r hr
  rw [not_code_of_slashes (starts_with_slashes X r hr)]
  exact Bool.false_ne_true

/-- **the header comment is invisible to the code projection**: whatever (break-free) lines the
    leading comment object holds, the code lines of the file are those of the rest -/
theorem code_ignores_leading_comment (X Y : List Str) (hX : ∀ l ∈ X, Spec.breakFree l = true)
    (hY : ∀ l ∈ Y, Spec.breakFree l = true) (r1 r2 : List Content) :
    Spec.codeOf (TB.mk' (.list (.list (.comment X :: r1) :: r2))).toStr =
    Spec.codeOf (TB.mk' (.list (.list (.comment Y :: r1) :: r2))).toStr := by
  rw [codeOf_mk_list, codeOf_mk_list]
  simp only [contentLines, flatten, flattenList, List.flatMap_append, List.filter_append]
  have hx := comment_no_code hX
  have hy := comment_no_code hY
  simp only [flatten] at hx hy
  rw [hx, hy]

theorem codeOf_commentOf {l l' r1 r2 : List Content} :
    Spec.codeOf (TB.mk' (.list (.list (commentOf (.list l) :: r1) :: r2))).toStr =
    Spec.codeOf (TB.mk' (.list (.list (commentOf (.list l') :: r1) :: r2))).toStr :=
  code_ignores_leading_comment _ _ (flatMap_itemLines_breakFree _) (flatMap_itemLines_breakFree _) r1 r2

/-! ### through the build -/

/-- the same configuration with other copyright and creator texts -/
@[reducible] def withText (cfg : Config) (cr ci : Content) : Config :=
  { cfg with copyright := cr, creatorInfo := ci }

theorem elements_same (cfg : Config) (cr ci : Content) (fc enc) :
    createDznElements (withText cfg cr ci) fc enc = createDznElements cfg fc enc := rfl

/-- **C19 (files)**: building with other copyright / creator texts fails with the same error or
    succeeds with the same file names, the same wiring and — line for line — the same code in the
    shell header and the shell source; only comment lines can differ.  (The six support files do
    not depend on the configuration's texts at all: `C12.support_files_standalone`.) -/
theorem files_code_independent (fc : FC) (cfg : Config) (cr ci : Content) :
    (∀ e, buildShell fc cfg = .error e → buildShell fc (withText cfg cr ci) = .error e) ∧
    (∀ a, buildShell fc cfg = .ok a → ∃ b, buildShell fc (withText cfg cr ci) = .ok b ∧
        b.hh.filename = a.hh.filename ∧ b.cc.filename = a.cc.filename ∧
        Spec.codeOf b.hh.contents = Spec.codeOf a.hh.contents ∧
        Spec.codeOf b.cc.contents = Spec.codeOf a.cc.contents) := by
  suffices h : Sim (fun a b => b.hh.filename = a.hh.filename ∧ b.cc.filename = a.cc.filename ∧
      Spec.codeOf b.hh.contents = Spec.codeOf a.hh.contents ∧
      Spec.codeOf b.cc.contents = Spec.codeOf a.cc.contents) (buildShell fc cfg) (buildShell fc (withText cfg cr ci)) from ⟨h.of_error, h.of_ok⟩
  -- the two builds run in lockstep: no step before the final rendering reads the two texts
  unfold buildShell
  refine Sim.ite (fun _ => .error) fun _ => Sim.bind fun enc => Sim.bind fun de =>
    Sim.ite (fun _ => .error) fun _ => Sim.bind fun pp => Sim.bind fun rp => Sim.bind fun hi =>
    Sim.bind fun ca => ?_
  -- `dsimp only` first: left to `exact`, the unifier reduces both `have`-telescopes itself, which is slow
  refine .ok ⟨rfl, rfl, ?_, ?_⟩ <;> dsimp only <;> exact codeOf_commentOf

end C19
