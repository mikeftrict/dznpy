/-
  C10 — Final construction detects every unbound boundary event.
-/
import DznModel.Sem
import DznProofs.Lemmas.Wiring
open Ast Shell Sem Lem

namespace C10

theorem mem_eventsOf (itf : InterfaceD) (e : Event) :
    e ∈ eventsOf itf .in_ ++ eventsOf itf .out ↔ e ∈ itf.events := by
  simp only [eventsOf, List.mem_append, List.mem_filter]
  cases e.dir <;> simp

theorem checkPort_eq (w : World) (obj : RObj) (itf : InterfaceD) (path : Str) :
    checkPort w obj itf path =
      ((eventsOf itf .in_ ++ eventsOf itf .out).find? fun e => (w.get ⟨obj, evDirOf e, e.name⟩).isNone).map
        fun e => .bindingError (path ++ L "." ++ (evDirOf e).str ++ L "." ++ e.name) := by
  unfold checkPort
  cases List.find? _ _ <;> rfl

/-- `check_bindings` of a port succeeds exactly when every event of its interface, in both
    directions, has a handler -/
theorem checkPort_none_iff (w : World) (obj : RObj) (itf : InterfaceD) (path : Str) :
    checkPort w obj itf path = none ↔
      ∀ e ∈ itf.events, (w.get ⟨obj, evDirOf e, e.name⟩).isSome = true := by
  rw [checkPort_eq, Option.map_eq_none_iff, List.find?_eq_none]
  simp only [mem_eventsOf, Bool.not_eq_true, Option.isNone_eq_false_iff]

/-- a binding error names the port's path and the unbound event -/
theorem checkPort_error (w : World) (obj : RObj) (itf : InterfaceD) (path : Str) (x : Exc)
    (h : checkPort w obj itf path = some x) :
    ∃ e ∈ itf.events, (w.get ⟨obj, evDirOf e, e.name⟩) = none ∧
      x = .bindingError (path ++ L "." ++ (evDirOf e).str ++ L "." ++ e.name) := by
  rw [checkPort_eq, Option.map_eq_some_iff] at h
  obtain ⟨e, hf, rfl⟩ := h
  have hn := List.find?_some hf
  exact ⟨e, (mem_eventsOf itf e).mp (List.mem_of_find?_eq_some hf), Option.isNone_iff_eq_none.mp hn, rfl⟩

theorem checkPort_unbound {w w' : World} (hs : w'.store = w.store) {obj : RObj} {itf : InterfaceD} {path : Str}
    {e : Event} (he : e ∈ itf.events) (hun : w.get ⟨obj, evDirOf e, e.name⟩ = none) :
    (checkPort w' obj itf path).isSome = true := by
  cases hc : checkPort w' obj itf path with
  | some x => rfl
  | none =>
    have := (checkPort_none_iff w' obj itf path).mp hc e he
    rw [World.get, hs, ← World.get, hun] at this
    cases this

def StoreStable (s : World → World × Option Exc) : Prop :=
  ∀ w, (s w).1.store = w.store ∧ (s w).1.allPorts = w.allPorts

theorem runSteps_cons (w : World) (s r) :
    runSteps w (s :: r) = match (s w).2 with | some _ => s w | none => runSteps (s w).1 r := by
  rw [runSteps]
  rcases s w with ⟨w', _ | e⟩ <;> rfl

theorem runSteps_some {steps : List (World → World × Option Exc)} {w : World} (I : World → Prop) (h0 : I w)
    (hst : ∀ s ∈ steps, ∀ w, I w → I (s w).1)
    {bad : World → World × Option Exc} (hb : bad ∈ steps) (hbad : ∀ w, I w → (bad w).2.isSome = true) :
    (runSteps w steps).2.isSome = true := by
  induction steps generalizing w with
  | nil => cases hb
  | cons s r ih =>
    rw [runSteps_cons]
    cases hs : (s w).2 with
    | some e => exact congrArg Option.isSome hs
    | none =>
      rcases List.mem_cons.mp hb with rfl | hb'
      · exact absurd (hbad w h0) (by rw [hs]; nofun)
      · exact ih (hst s List.mem_cons_self w h0) (fun s' hs' => hst s' (List.mem_cons_of_mem _ hs')) hb'

theorem setSelector_store (w : World) (s : Selector) : (w.setSelector s).store = w.store := rfl

theorem mcFinalStep_stable (p : CppPortItf) : StoreStable (mcFinalStep p) := by
  intro w'
  unfold mcFinalStep
  cases w'.selector p.target with
  | none => exact ⟨rfl, rfl⟩
  | some sel =>
    refine iteInduction (motive := fun r : World × Option Exc => r.1.store = w'.store ∧ r.1.allPorts = w'.allPorts)
      (fun _ => ⟨rfl, rfl⟩) fun _ => ?_
    cases List.findSome? _ _ <;> exact ⟨rfl, rfl⟩

theorem stmtStep_stable {ir : ShellIR} {parent : Bool} {s : Str} {f : World → World × Option Exc}
    (h : stmtStep ir parent s = some f) : StoreStable f := by
  revert h
  unfold stmtStep
  refine iteInduction (motive := fun o => o = some f → StoreStable f) (fun _ h => ?_) fun _ =>
    iteInduction (motive := fun o => o = some f → StoreStable f) (fun _ h => ?_) fun _ => ?_
  · cases h; exact fun _ => ⟨rfl, rfl⟩
  · cases h; exact fun _ => ⟨rfl, rfl⟩
  · cases List.find? _ _ with
    | some p => intro h; cases h; exact mcFinalStep_stable p
    | none =>
      cases List.find? _ _ with
      | some p => intro h; cases h; exact fun _ => ⟨rfl, rfl⟩
      | none => exact nofun

theorem finalConstruct_some {w : World} {parent : Bool} {step : World → World × Option Exc}
    (hstmt : ∃ s ∈ w.ir.finalConstruct, stmtStep w.ir parent s = some step)
    (hbad : ∀ w', w'.store = w.store → w'.allPorts = w.allPorts → (step w').2.isSome = true) :
    (finalConstruct w parent).2.isSome = true := by
  obtain ⟨s, hs, hst⟩ := hstmt
  unfold finalConstruct finalStep
  refine runSteps_some (fun w' => w'.store = w.store ∧ w'.allPorts = w.allPorts) ⟨rfl, rfl⟩ (fun f hf w' hw' => ?_)
    (List.mem_filterMap.mpr ⟨s, hs, hst⟩) fun w' hw' => hbad w' hw'.1 hw'.2
  obtain ⟨_, _, hf⟩ := List.mem_filterMap.mp hf
  exact ⟨((stmtStep_stable hf) w').1.trans hw'.1, ((stmtStep_stable hf) w').2.trans hw'.2⟩

/-- **detection (boundary)**: if the generated body contains the statement that checks the bindings
    of an exposed, non-multi-client port, and a single event of that port is left unbound on the
    object the statement addresses (the component's own port for STS, the boundary member for MTS),
    final construction does not return normally -/
theorem detect_unbound_boundary (w : World) (parent : Bool) (p : CppPortItf)
    (hstmt : ∃ s ∈ w.ir.finalConstruct, stmtStep w.ir parent s = some (checkStep p))
    (e : Event) (he : e ∈ p.dzn.itf.events)
    (hun : w.get ⟨boundaryObj p, evDirOf e, e.name⟩ = none) :
    (finalConstruct w parent).2.isSome = true :=
  finalConstruct_some hstmt fun _ hw' _ => checkPort_unbound hw' he hun

/-- **detection (component)**: if the body contains `m_encapsulee.check_bindings();`, an unbound
    event on any of the wrapped component's own ports (injected ones included) is detected as well -/
theorem detect_unbound_component (w : World) (parent : Bool) (p : Port) (itf : InterfaceD)
    (hstmt : L "m_encapsulee.check_bindings();" ∈ w.ir.finalConstruct)
    (hp : (p, itf) ∈ w.allPorts) (e : Event) (he : e ∈ itf.events)
    (hun : w.get ⟨.enc p.name, evDirOf e, e.name⟩ = none) :
    (finalConstruct w parent).2.isSome = true :=
  finalConstruct_some (step := encCheckStep) ⟨_, hstmt, (if_neg (by decide)).trans (if_pos rfl)⟩ fun _ hw' hap =>
    List.findSome?_isSome_iff.mpr ⟨(p, itf), hap ▸ hp, checkPort_unbound hw' he hun⟩

/-- **detection (client ports of a multi-client port)**: if the body contains
    `<selector>.FinalConstruct();` and some registered client port has an unbound event, final
    construction does not return normally either -/
theorem detect_unbound_client (w : World) (parent : Bool) (p : CppPortItf)
    (hstmt : ∃ s ∈ w.ir.finalConstruct, stmtStep w.ir parent s = some (mcFinalStep p))
    (hsel : ∀ w' : World, w'.store = w.store → ∃ sel, w'.selector p.target = some sel ∧
        (sel.finalConstructed = true ∨ ∃ id ∈ sortedIds sel.clients, ∃ e ∈ p.dzn.itf.events,
          w.get ⟨.client p.target id, evDirOf e, e.name⟩ = none)) :
    (finalConstruct w parent).2.isSome = true := by
  refine finalConstruct_some hstmt fun w' hw' _ => ?_
  obtain ⟨sel, hs, hcase⟩ := hsel w' hw'
  unfold mcFinalStep
  rw [hs]
  -- an already final-constructed selector refuses; otherwise the unbound client event is found
  refine iteInduction (motive := fun r : World × Option Exc => r.2.isSome = true) (fun _ => rfl) fun hfc => ?_
  obtain hfc' | ⟨id, hid, e, he, hun⟩ := hcase
  · exact absurd hfc' hfc
  · split
    · rfl
    next hnone =>
      exact (Option.not_isSome_iff_eq_none.mpr hnone <|
        List.findSome?_isSome_iff.mpr ⟨id, hid, checkPort_unbound hw' he hun⟩).elim

/-- **locked**: once a multi-client selector is final constructed no client can be registered,
    while identifiers registered before still resolve -/
theorem locked_after_success (w : World) (p : CppPortItf) (sel : Selector)
    (hs : w.selector p.target = some sel) (hf : sel.finalConstructed = true) (id : Str) (hid : id ≠ []) :
    (id ∉ sel.clients → (registerClient w p id).2 =
        some (.runtimeError (L "Can not allocate a ClientPort entry when final constructed."))) ∧
    (id ∈ sel.clients → registerClient w p id = (w, none)) :=
  ⟨fun hn => congrArg Prod.snd (registerClient_locked hs hid hn hf), registerClient_known hs hid⟩

/-- **all bound**: when every check passes, FinalConstruct returns normally -/
theorem all_bound_ok (steps : List (World → World × Option Exc)) (w : World)
    (h : ∀ s ∈ steps, ∀ w', (s w').2 = none) : (runSteps w steps).2 = none := by
  induction steps generalizing w with
  | nil => rfl
  | cons s r ih =>
    rw [runSteps_cons, h s List.mem_cons_self w]
    exact ih _ fun s' hs' => h s' (List.mem_cons_of_mem _ hs')

end C10
