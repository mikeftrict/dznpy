/-
  C16 — Parses are isolated and repeatable.  (property theorems over the parser-object model)
-/
import DznModel.ParserObj
import DznProofs.Lemmas.Basic
open ParserObj

namespace C16

theorem getI_setI (s : State) (k' k : Nat) (i : Inst) : getI (setI s k' i) k = if k' = k then i else getI s k := by
  unfold getI setI
  rw [List.lookup_cons]
  by_cases h : k' = k
  · rw [if_pos h, h, show (k == k) = true from decide_eq_true rfl]
    rfl
  · rw [if_neg h, show (k == k') = false from decide_eq_false (Ne.symm h), Lem.lookup_filter (fun x => x.1 != k') _ k fun _ => bne_iff_ne.mpr (Ne.symm h)]

theorem processInst_eq (i : Inst) :
    processInst i = ({ i with acc := (Parser.processFrom (i.ast.getD .null) {}).1 }, Parser.parse (i.ast.getD .null)) := by
  unfold processInst Parser.parse
  cases Parser.processFrom (i.ast.getD .null) {} with
  | mk fc oe => cases oe <;> rfl

theorem doc_tracks (ops : List Op) (s : State) (k : Nat) :
    (getI (run s ops).1 k).ast = docAfter k ops (getI s k).ast := by
  induction ops generalizing s with
  | nil => rfl
  | cons op ops ih =>
    simp only [run]
    rw [ih]
    cases op with
    | new k' doc => simp only [step, docAfter, getI_setI]; split <;> rfl
    | load k' doc => simp only [step, docAfter, getI_setI]; split <;> rfl
    | process k' =>
      simp only [step, docAfter, getI_setI]
      split
      next h => rw [processInst_eq, h]
      next => rfl

/-- **C16 (history freedom)**: after *any* history of constructions, loads and process() calls
    on any instances, `process()` on instance `k` returns what parsing its currently loaded
    document alone returns — no accumulation, no influence of other instances or earlier parses -/
theorem history_free (ops : List Op) (k : Nat) :
    (step (run [] ops).1 (.process k)).2 =
      some (Parser.parse ((docAfter k ops none).getD .null)) := by
  simp only [step]
  rw [processInst_eq, doc_tracks]
  rfl

/-- operations on one instance never change what another instance holds -/
theorem instances_isolated (s : State) (op : Op) (k : Nat)
    (h : match op with | .new k' _ => k' ≠ k | .load k' _ => k' ≠ k | .process k' => k' ≠ k) :
    getI (step s op).1 k = getI s k := by
  cases op <;> exact (getI_setI ..).trans (if_neg h)

theorem docAfter_append_process (k k' : Nat) (ops : List Op) (d : Option JVal) :
    docAfter k (ops ++ [.process k']) d = docAfter k ops d := by
  induction ops generalizing d with
  | nil => rfl
  | cons op r ih => cases op <;> simp [docAfter, ih]

/-- repeating process() yields an equal result (corollary) -/
theorem repeat_equal (ops : List Op) (k : Nat) :
    (step (run [] (ops ++ [.process k])).1 (.process k)).2 = (step (run [] ops).1 (.process k)).2 := by
  rw [history_free, history_free, docAfter_append_process]

end C16
