/-
  C04 (continued) — from `Builder.build` to the wiring the history theorems of `C04Gen` need:
  what `create_cpp_port_helpers` / `initialize_port_impl` produce, what registering a client does,
  what the constructor establishes for the arbitered port, and their composition
  `build_mc_wired` / `build_history_holder`: for every model and configuration the builder accepts.
-/
import DznModel.Sem
import DznProofs.C01Gen
import DznProofs.C04Gen
import DznProofs.Lemmas.Wiring
open Scoping Ast Shell Sem Lem

namespace C04

/-! ### the `InitializePort<Port>` bodies `create_cpp_port_helpers` produces -/

/-- the entry of one port: its name and the assignments of its `InitializePort` body -/
def initEntry (fc : FC) (p : CppPortItf) : Option (Str × List Assign) :=
  match p.dzn.mc with
  | none => none
  | some mc =>
    match initializePortAssigns fc p mc with
    | .ok v => some (p.name, v)
    | .error _ => none

theorem initEntry_of {fc : FC} {p : CppPortItf} {mc : McFixture} {as : List Assign}
    (hmc : p.dzn.mc = some mc) (has : initializePortAssigns fc p mc = .ok as) :
    initEntry fc p = some (p.name, as) := by
  rw [initEntry, hmc]
  dsimp only
  rw [has]

theorem initEntry_name {fc : FC} {p : CppPortItf} {x : Str × List Assign} (h : initEntry fc p = some x) :
    x.1 = p.name := by
  revert h
  unfold initEntry
  cases p.dzn.mc with
  | none => nofun
  | some mc =>
    dsimp only
    cases initializePortAssigns fc p mc with
    | error _ => nofun
    | ok v => intro h; cases h; rfl

theorem createHelpers_ok {fc : FC} {ps : List CppPortItf} {sfns : Ids} {sn : Str} {r : Helpers × List (Str × List Assign)}
    (h : createHelpers fc ps sfns sn = .ok r) :
    r.2 = ps.flatMap (fun p => (initEntry fc p).toList) ∧
    ∀ p ∈ ps, ∀ mc, p.dzn.mc = some mc → ∃ as, initializePortAssigns fc p mc = .ok as := by
  unfold createHelpers at h
  obtain ⟨s, hloop, h⟩ := bind_ok h
  cases pure_ok h
  -- the loop carries (pub, priv, inits); only `inits` matters here
  refine (forIn_inv (fun done s => s.2.2 = done.flatMap (fun p => (initEntry fc p).toList) ∧
      ∀ p ∈ done, ∀ mc, p.dzn.mc = some mc → ∃ as, initializePortAssigns fc p mc = .ok as) ?step ?init hloop : _)
  case init => exact ⟨rfl, fun _ h => nomatch h⟩
  intro done p s x ⟨hi, hall⟩ hx
  have step : ∃ s', x = .yield s' ∧ s'.2.2 = s.2.2 ++ (initEntry fc p).toList ∧
      ∀ mc, p.dzn.mc = some mc → ∃ as, initializePortAssigns fc p mc = .ok as := by
    cases hmc : p.dzn.mc with
    | none =>
      rw [hmc] at hx
      cases pure_ok hx
      exact ⟨_, rfl, by rw [initEntry, hmc]; exact (List.append_nil _).symm, nofun⟩
    | some mc =>
      rw [hmc] at hx
      obtain ⟨as, has, hx⟩ := bind_ok hx
      cases pure_ok hx
      exact ⟨_, rfl, by rw [initEntry_of hmc has]; rfl, fun _ h => by cases h; exact ⟨as, has⟩⟩
  obtain ⟨s', rfl, hs', hp⟩ := step
  refine ⟨s', rfl, ?_, List.forall_mem_append.mpr ⟨hall, fun q hq => by cases List.mem_singleton.mp hq; exact hp⟩⟩
  rw [hs', hi, List.flatMap_append, List.flatMap_singleton]

theorem createHelpers_inits (fc : FC) (ps : List CppPortItf) (sfns : Ids) (sn : Str) (hl : Helpers)
    (inits : List (Str × List Assign)) (h : createHelpers fc ps sfns sn = .ok (hl, inits)) :
    inits = ps.flatMap (fun p => (initEntry fc p).toList) :=
  (createHelpers_ok h).1


/-! ### registering a client -/

/-- the assignments `InitializePort<Port>` executes for a new client port -/
def initAssigns (ir : ShellIR) (p : CppPortItf) : List Assign :=
  ((ir.initPort.find? (·.1 = p.name)).map (·.2)).getD []

theorem resolve_local (d : EvDir) (e cmv cid : Str) :
    resolveSlot ⟨.local_, d, e⟩ cmv cid = ⟨.client cmv cid, d, e⟩ := rfl

/-- after registration the new client port's slots hold the `InitializePort` handlers, every other
    slot is untouched, the selector knows the client -/
theorem registered (w : World) (p : CppPortItf) (id : Str) (sel : Selector)
    (hs : w.selector p.target = some sel) (hid : id ≠ []) (hnew : id ∉ sel.clients)
    (hnf : sel.finalConstructed = false)
    (hloc : ∀ a ∈ initAssigns w.ir p, a.lhs.obj = .local_) :
    let w' := (registerClient w p id).1
    (registerClient w p id).2 = none ∧
    w'.selector p.target = some { sel with clients := sel.clients ++ [id] } ∧
    w'.queue = w.queue ∧ w'.grantIndex = w.grantIndex ∧ w'.ir = w.ir ∧
    (∀ k : RSlot, k.obj ≠ .client p.target id → w'.get k = w.get k) ∧
    (∀ a ∈ initAssigns w.ir p, ∀ ev,
        p.dzn.itf.events.find? (fun e => e.name = a.lhs.ev ∧ evDirOf e = a.lhs.dir) = some ev →
        (∀ b ∈ initAssigns w.ir p, b.lhs.dir = a.lhs.dir → b.lhs.ev = a.lhs.ev → b.rhs = a.rhs) →
        w'.get ⟨.client p.target id, a.lhs.dir, a.lhs.ev⟩ = some (.ir a.rhs ev id p.target)) := by
  rw [registerClient_new hs hid hnew hnf (as := initAssigns w.ir p) rfl]
  -- running the body changes the store only; the selector was entered before
  obtain ⟨st, hst⟩ := runAssigns_store (w.setSelector { sel with clients := sel.clients ++ [id] }) (initAssigns w.ir p)
    p.target id (some p.dzn.itf)
  have hslot : ∀ c ∈ initAssigns w.ir p,
      resolveSlot c.lhs p.target id = ⟨.client p.target id, c.lhs.dir, c.lhs.ev⟩ := by
    intro c hc
    rw [resolveSlot, hloc c hc]
    rfl
  refine ⟨rfl, by rw [hst]; exact selector_written w (selector_mv w p.target sel hs), by rw [hst]; rfl, by rw [hst]; rfl,
    by rw [hst]; rfl, ?_, ?_⟩
  · intro k hk
    rw [C01.runAssigns_get_other _ _ _ _ _ _ fun a ha e => hk (by rw [← e, hslot a ha])]
    rfl
  · intro a ha ev hev hsame
    rw [← hslot a ha]
    refine C01.runAssigns_get_of _ _ _ _ _ a ha ev fun b hb hk => ?_
    rw [hslot a ha, hslot b hb] at hk
    injection hk with _ hd he
    rw [C01.eventOfAssign_local (hloc b hb), hd, he]
    exact ⟨hsame b hb hd he, hev⟩


section
variable {fc : FC} {p : CppPortItf} {mc : McFixture} {as : List Assign} {ev : Event} {a : Assign}

theorem initAssigns_local (h : initializePortAssigns fc p mc = .ok as) : ∀ a ∈ as, a.lhs.obj = .local_ := by
  intro a ha
  obtain ⟨ev, _, hf⟩ := mapM_mem h a ha
  rw [initAssignOf_lhs hf]

theorem client_slot (has : initializePortAssigns fc p mc = .ok as) (hev : ev ∈ inEvents p.dzn.itf)
    (hevu : ∀ e ∈ p.dzn.itf.events, e.name = ev.name → evDirOf e = .in_ → e = ev)
    (ha : a ∈ as) (hf : initAssignOf fc p mc ev = .ok a)
    {w : World} {id : Str} {sel : Selector}
    (hs : w.selector p.target = some sel) (hid : id ≠ []) (hnew : id ∉ sel.clients) (hnf : sel.finalConstructed = false)
    (hia : initAssigns w.ir p = as) :
    (registerClient w p id).1.get ⟨.client p.target id, .in_, ev.name⟩ = some (.ir a.rhs ev id p.target) := by
  subst hia
  obtain ⟨hevm, hin⟩ := C01.inEvents_dir hev
  obtain ⟨_, _, _, _, _, _, hslots⟩ := registered w p id sel hs hid hnew hnf (initAssigns_local has)
  have := hslots a ha ev
  rw [initAssignOf_lhs hf] at this
  refine this (find?_unique hevm (decide_eq_true ⟨rfl, hin⟩) fun e he' hq =>
    hevu e he' (of_decide_eq_true hq).1 (of_decide_eq_true hq).2) fun b hb _ hbe => ?_
  -- another assignment to this slot stems from an in-event of the same name: the same event
  obtain ⟨ev', hev', hfb⟩ := mapM_mem has b hb
  rw [initAssignOf_lhs hfb] at hbe
  cases hevu ev' (C01.inEvents_dir hev').1 hbe (C01.inEvents_dir hev').2
  cases hf.symm.trans hfb
  rfl

end

/-! ### registering any number of clients on a constructed shell -/

/-- the state after the clients `done` have been registered on the world `w0` -/
structure RegInv (w0 w : World) (p : CppPortItf) (claim release : Event) (cl rl : Handler) (done : List Str) : Prop where
  frame : ∀ k : RSlot, (∀ id ∈ done, k.obj ≠ .client p.target id) → w.get k = w0.get k
  claimSlot : ∀ id ∈ done, w.get ⟨.client p.target id, .in_, claim.name⟩ = some (.ir cl claim id p.target)
  releaseSlot : ∀ id ∈ done, w.get ⟨.client p.target id, .in_, release.name⟩ = some (.ir rl release id p.target)
  queue : w.queue = w0.queue
  grantIndex : w.grantIndex = w0.grantIndex
  ir : w.ir = w0.ir
  selector : w.selector p.target = some { mv := p.target, port := p.name, clients := done }

theorem RegInv.register {w0 w : World} {p : CppPortItf} {claim release : Event} {cl rl : Handler} {done : List Str}
    (inv : RegInv w0 w p claim release cl rl done) {id : Str} (hid : id ≠ []) (hnew : id ∉ done)
    (hloc : ∀ a ∈ initAssigns w.ir p, a.lhs.obj = .local_)
    (hC : (registerClient w p id).1.get ⟨.client p.target id, .in_, claim.name⟩ = some (.ir cl claim id p.target))
    (hR : (registerClient w p id).1.get ⟨.client p.target id, .in_, release.name⟩ = some (.ir rl release id p.target)) :
    RegInv w0 (registerClient w p id).1 p claim release cl rl (done ++ [id]) := by
  obtain ⟨_, hsel, hq, hg, hir, hframe, _⟩ := registered w p id _ inv.selector hid hnew rfl hloc
  have slot : ∀ {ev : Str} {f : Str → RH}, (∀ id' ∈ done, w.get ⟨.client p.target id', .in_, ev⟩ = some (f id')) →
      (registerClient w p id).1.get ⟨.client p.target id, .in_, ev⟩ = some (f id) →
      ∀ id' ∈ done ++ [id], (registerClient w p id).1.get ⟨.client p.target id', .in_, ev⟩ = some (f id') := by
    intro ev f hold hnew' id' hid'
    rcases List.mem_append.mp hid' with h1 | h1
    · rw [hframe ⟨.client p.target id', .in_, ev⟩ fun e => hnew ((RObj.client.inj e).2 ▸ h1)]
      exact hold id' h1
    · cases List.mem_singleton.mp h1
      exact hnew'
  exact {
    frame := fun k hk => by
      rw [hframe k (hk id (List.mem_append_right _ (List.mem_singleton.mpr rfl)))]
      exact inv.frame k fun id' hid' => hk id' (List.mem_append_left _ hid')
    claimSlot := slot inv.claimSlot hC
    releaseSlot := slot inv.releaseSlot hR
    queue := hq.trans inv.queue
    grantIndex := hg.trans inv.grantIndex
    ir := hir.trans inv.ir
    selector := hsel }

theorem register_all (fc : FC) (p : CppPortItf) (mc : McFixture) (as : List Assign)
    (has : initializePortAssigns fc p mc = .ok as)
    (hcl : mc.claimEvent ∈ inEvents p.dzn.itf) (hrl : mc.releaseEvent ∈ inEvents p.dzn.itf)
    (hne : mc.releaseEvent.name ≠ mc.claimEvent.name)
    (hevuC : ∀ e ∈ p.dzn.itf.events, e.name = mc.claimEvent.name → evDirOf e = .in_ → e = mc.claimEvent)
    (hevuR : ∀ e ∈ p.dzn.itf.events, e.name = mc.releaseEvent.name → evDirOf e = .in_ → e = mc.releaseEvent)
    (w0 : World) (hia : initAssigns w0.ir p = as)
    (hs0 : w0.selector p.target = some { mv := p.target, port := p.name })
    (ids : List Str) (hids : ∀ id ∈ ids, id ≠ []) (hnd : ids.Nodup) :
    ∃ psC psR, lambdaParamsOf fc p.dzn.itf mc.claimEvent true = .ok psC ∧
      lambdaParamsOf fc p.dzn.itf mc.releaseEvent true = .ok psR ∧
      RegInv w0 (ids.foldl (fun w id => (registerClient w p id).1) w0) p mc.claimEvent mc.releaseEvent
        (.mcClaim p.target mc.claimEvent.name psC (formalNames mc.claimEvent) (CppGen.Fqn.str { ids := mc.grant, root := true }))
        (.mcRelease p.target mc.releaseEvent.name mc.releaseEvent.name psR (formalNames mc.releaseEvent)) ids := by
  -- the two handlers, fixed once
  obtain ⟨aC, haC, hfC⟩ := mapM_mem_fwd has _ hcl
  obtain ⟨psC, hpsC, hrC⟩ := initAssignOf_claim hfC
  obtain ⟨aR, haR, hfR⟩ := mapM_mem_fwd has _ hrl
  obtain ⟨psR, hpsR, hrR⟩ := initAssignOf_release hne hfR
  refine ⟨psC, psR, hpsC, hpsR, ?_⟩
  rw [← hrC, ← hrR]
  -- the clients are registered one after the other: induction from the last one
  obtain ⟨r, rfl⟩ : ∃ r, ids = r.reverse := ⟨ids.reverse, ids.reverse_reverse.symm⟩
  induction r with
  | nil => exact ⟨fun _ _ => rfl, nofun, nofun, rfl, rfl, rfl, hs0⟩
  | cons id r ih =>
    rw [List.reverse_cons] at hids hnd ⊢
    rw [List.foldl_append]
    obtain ⟨hndr, -, hdisj⟩ := List.nodup_append.mp hnd
    have inv := ih (fun x hx => hids x (List.mem_append_left _ hx)) hndr
    have hid : id ≠ [] := hids id (List.mem_append_right _ (List.mem_singleton.mpr rfl))
    have hnew : id ∉ r.reverse := fun hm => hdisj id hm id (List.mem_singleton.mpr rfl) rfl
    have hia' := (congrArg (initAssigns · p) inv.ir).trans hia
    exact inv.register hid hnew (by rw [hia']; exact initAssigns_local has)
      (client_slot has hcl hevuC haC hfC inv.selector hid hnew rfl hia')
      (client_slot has hrl hevuR haR hfR inv.selector hid hnew rfl hia')


/-! ### what the constructor establishes for the arbitered port -/

open C01 in
/-- for every in-event of the multi-client port the constructed shell has the rerouting handler on
    the arbitered port and the component's own handler behind it -/
theorem generated_mc_in_slots (fc : FC) (sn : Str) (fac : Facilities) (pp rp : List CppPortItf) (sfns : Ids)
    (ctor : CppGen.Constructor) (assigns : List Assign)
    (h : createConstructor fc sn fac pp rp sfns = .ok (ctor, assigns))
    (ir : ShellIR) (hpp : ir.provides = pp) (hrp : ir.requires = rp) (has : ir.ctorAssigns = assigns)
    (p : CppPortItf) (hp : p ∈ mtsPorts pp) (hmc : p.isMc = true) (ev : Event) (hev : ev ∈ inEvents p.dzn.itf)
    (hinj : ∀ q ∈ pp ++ rp, q.target = p.target → q = p)
    (hnames : ∀ q ∈ rp, q.name ≠ p.name)
    (hevu : ∀ e ∈ p.dzn.itf.events, e.name = ev.name → evDirOf e = .in_ → e = ev)
    (allPorts : List (Port × InterfaceD)) (hpa : (p.dzn.port, p.dzn.itf) ∈ allPorts) (hu : UniqueEvents allPorts)
    (hdir : p.dzn.port.dir = .provides)
    (gi : Option Nat) (pump runtime : Bool) (name : Str) (extra : Bool)
    (w : World) (hw : construct ir allPorts gi pump runtime none name extra = .ok w) :
    ∃ ps, lambdaParamsOf fc p.dzn.itf ev true = .ok ps ∧ ps.map (·.name) = ev.formals.map (·.name) ∧
      w.get ⟨.arb p.target, .in_, ev.name⟩ =
        some (.ir (.shell ⟨.enc p.name, .in_, ev.name⟩ ps (ps.map (·.name)) (inFormalNames ev)) ev [] []) ∧
      w.get ⟨.enc p.name, .in_, ev.name⟩ = some (.scripted .comp p.name ev) := by
  subst hpp hrp has
  obtain ⟨ps, hps, hnm, harb, hcomp⟩ := generated_in_slots h hp hev hinj hnames hevu hpa hu hdir hw
  refine ⟨ps, hps, hnm, ?_, hcomp⟩
  rw [inAssign, hmc, formalNames, ← hnm] at harb
  exact harb


/-! ### at the level of `Builder.build` -/

theorem build_initPort (fc : FC) (cfg : Config) (b : BuildResult) (h : build fc cfg = .ok b) :
    b.ir.initPort = b.ir.provides.flatMap (fun q => (initEntry fc q).toList) ∧
    ∀ p ∈ b.ir.provides, ∀ mc, p.dzn.mc = some mc → ∃ as, initializePortAssigns fc p mc = .ok as := by
  obtain ⟨_, ⟨B⟩, rfl⟩ := build_ok h
  exact createHelpers_ok B.helpersOk

/-- `InitializePort<Port>` of the generated shell executes exactly the assignments `initialize_port_impl` made -/
theorem build_initAssigns {fc : FC} {cfg : Config} {b : BuildResult} (h : build fc cfg = .ok b) {p : CppPortItf}
    (hp : p ∈ b.ir.provides) {mc : McFixture} (hmc : p.dzn.mc = some mc)
    (hninj : ∀ q ∈ b.ir.provides, q.name = p.name → q = p) :
    ∃ as, initializePortAssigns fc p mc = .ok as ∧ initAssigns b.ir p = as := by
  obtain ⟨hinit, hall⟩ := build_initPort fc cfg b h
  obtain ⟨as, has⟩ := hall p hp mc hmc
  have he := initEntry_of hmc has
  refine ⟨as, has, ?_⟩
  rw [initAssigns, hinit, find?_unique (x := (p.name, as))
    (List.mem_flatMap.mpr ⟨p, hp, by rw [he]; exact List.mem_singleton.mpr rfl⟩) (decide_eq_true rfl) ?_]
  · rfl
  -- another entry of that name is the entry of a port of that name: of `p`
  intro y hy hyn
  obtain ⟨q, hq, hyq⟩ := List.mem_flatMap.mp hy
  have hyq : initEntry fc q = some y := Option.mem_toList.mp hyq
  rw [hninj q hq ((initEntry_name hyq).symm.trans (of_decide_eq_true hyn)), he] at hyq
  exact (Option.some.inj hyq).symm

theorem construct_selector {ir : ShellIR} {allPorts : List (Port × InterfaceD)} {gi : Option Nat} {pump runtime : Bool}
    {name : Str} {extra : Bool} {w : World} (hw : construct ir allPorts gi pump runtime none name extra = .ok w)
    {p : CppPortItf} (hp : p ∈ ir.provides) (hmc : p.isMc = true)
    (hinj : ∀ q ∈ ir.provides, q.target = p.target → q = p) :
    w.selector p.target = some { mv := p.target, port := p.name } := by
  obtain ⟨_, rfl⟩ := construct_fields hw
  unfold World.selector
  rw [List.find?_map]
  simp only [Function.comp_def]
  rw [find?_unique (List.mem_filter.mpr ⟨hp, hmc⟩) (decide_eq_true rfl)
    fun q hq hqt => hinj q (List.mem_filter.mp hq).1 (of_decide_eq_true hqt)]
  rfl

/-- **C04 at the level of `Builder.build`**: for every model and configuration the builder accepts
    with a multi-client port `p`, in the shell constructed from the generated wiring and with any
    clients `ids` registered (`ProvidesMultiClient<Port>(id)` for each), the wiring the history
    theorems need (`McWired`) is in place, nothing is pending and nobody is selected.  Hence
    `history_refines`, `history_delivery` and `history_holder` apply to every such shell.
    Hypotheses: Dezyne's well-formedness rules (claim and release are in-events with names unique in
    the interface, formal names unique), no boundary-member collision (K-2), unique port names. -/
theorem build_mc_wired (fc : FC) (cfg : Config) (b : BuildResult) (h : build fc cfg = .ok b)
    (p : CppPortItf) (hp : p ∈ b.ir.provides) (hsem : p.dzn.sem = .mts) (mc : McFixture) (hmc : p.dzn.mc = some mc)
    (hcl : mc.claimEvent ∈ inEvents p.dzn.itf) (hrl : mc.releaseEvent ∈ inEvents p.dzn.itf)
    (hne : mc.releaseEvent.name ≠ mc.claimEvent.name) (hnv : isVoid mc.claimEvent = false)
    (hevuC : ∀ e ∈ p.dzn.itf.events, e.name = mc.claimEvent.name → evDirOf e = .in_ → e = mc.claimEvent)
    (hevuR : ∀ e ∈ p.dzn.itf.events, e.name = mc.releaseEvent.name → evDirOf e = .in_ → e = mc.releaseEvent)
    (hndC : (mc.claimEvent.formals.map (·.name)).Nodup) (hndR : (mc.releaseEvent.formals.map (·.name)).Nodup)
    (hinj : ∀ q ∈ b.ir.provides ++ b.ir.requires, q.target = p.target → q = p)
    (hninj : ∀ q ∈ b.ir.provides, q.name = p.name → q = p)
    (hnames : ∀ q ∈ b.ir.requires, q.name ≠ p.name)
    (hu : C01.UniqueEvents b.allPorts)
    (pump runtime : Bool) (name : Str) (extra : Bool)
    (w0 : World) (hw0 : construct b.ir b.allPorts b.grantIndex pump runtime none name extra = .ok w0)
    (ids : List Str) (hids : ∀ id ∈ ids, id ≠ []) (hnd : ids.Nodup) :
    let w := ids.foldl (fun w id => (registerClient w p id).1) w0
    ∃ psC psR,
      psC.map (·.name) = mc.claimEvent.formals.map (·.name) ∧ psR.map (·.name) = mc.releaseEvent.formals.map (·.name) ∧
      McWired w p.target p.name mc.claimEvent mc.releaseEvent psC psC psR psR
        (inFormalNames mc.claimEvent) (inFormalNames mc.releaseEvent)
        (CppGen.Fqn.str { ids := mc.grant, root := true }) ids ∧
      w.queue = [] ∧ w.grantIndex = b.grantIndex ∧
      w.selector p.target = some { mv := p.target, port := p.name, clients := ids } := by
  have hisMc : p.isMc = true := by rw [CppPortItf.isMc, hmc]; rfl
  obtain ⟨hpa, hdir⟩ := (C01.port_of_build h).1 hp
  obtain ⟨as, has, hia⟩ := build_initAssigns h hp hmc hninj
  obtain ⟨s, ⟨B⟩, rfl⟩ := build_ok h
  have hmts : p ∈ mtsPorts s.ir.provides := mem_mtsPorts.mpr ⟨hp, hsem⟩
  have hslots := fun ev hev hevu => generated_mc_in_slots fc _ _ _ _ _ B.ctor _ B.ctorOk s.ir rfl rfl rfl p hmts hisMc ev hev
    hinj hnames hevu s.allPorts hpa hu hdir s.grantIndex pump runtime name extra w0 hw0
  obtain ⟨psC, hpsC, hnmC, harbC, hcompC⟩ := hslots mc.claimEvent hcl hevuC
  obtain ⟨psR, hpsR, hnmR, harbR, hcompR⟩ := hslots mc.releaseEvent hrl hevuR
  obtain ⟨st, hw0e⟩ := construct_fields hw0
  obtain ⟨psC', psR', hpsC', hpsR', inv⟩ := register_all fc p mc as has hcl hrl hne hevuC hevuR w0
    (by rw [hw0e]; exact hia)
    (construct_selector hw0 hp hisMc fun q hq hqt => hinj q (List.mem_append_left _ hq) hqt) ids hids hnd
  cases hpsC.symm.trans hpsC'
  cases hpsR.symm.trans hpsR'
  refine ⟨psC, psR, hnmC, hnmR, ?_, inv.queue.trans (by rw [hw0e]), inv.grantIndex.trans (by rw [hw0e]), inv.selector⟩
  have hfnC : formalNames mc.claimEvent = psC.map (·.name) := by rw [formalNames, hnmC]
  have hfnR : formalNames mc.releaseEvent = psR.map (·.name) := by rw [formalNames, hnmR]
  -- slots of the arbitered port and of the component are no client's: `inv.frame` keeps them
  exact {
    clClaim := fun id hid => by rw [inv.claimSlot id hid, hfnC]
    arbClaim := (inv.frame ⟨.arb p.target, .in_, _⟩ fun _ _ => nofun).trans harbC
    compClaim := (inv.frame ⟨.enc p.name, .in_, _⟩ fun _ _ => nofun).trans hcompC
    clRelease := fun id hid => by rw [inv.releaseSlot id hid, hfnR]
    arbRelease := (inv.frame ⟨.arb p.target, .in_, _⟩ fun _ _ => nofun).trans harbR
    compRelease := (inv.frame ⟨.enc p.name, .in_, _⟩ fun _ _ => nofun).trans hcompR
    claimValued := hnv
    ndC := hnmC ▸ hndC
    ndA := hnmC ▸ hndC
    ndR := hnmR ▸ hndR
    ndB := hnmR ▸ hndR
    lenA := rfl
    lenB := rfl }


/-- the number of arguments a client operation passes, against the events' declared parameters -/
def ClientOp.arity (claim release : Event) : ClientOp → Prop
  | .claim _ _ args => claim.formals.length = args.length
  | .release _ args => release.formals.length = args.length

/-- **C04 for every accepted model and configuration** (partial: histories without a release by a
    non-holder, finding D-9): in the shell `Builder.build` generates, with any clients registered,
    after any history of claims and releases — executed through the generated per-client
    wrappers, each claim answered by the component with an arbitrary reply — the shell's selected
    client is the client whose most recent claim was answered with the granting reply and who has
    not released since; and (`history_delivery`) an out-event is observed by exactly that client. -/
theorem build_history_holder (fc : FC) (cfg : Config) (b : BuildResult) (h : build fc cfg = .ok b)
    (p : CppPortItf) (hp : p ∈ b.ir.provides) (hsem : p.dzn.sem = .mts) (mc : McFixture) (hmc : p.dzn.mc = some mc)
    (hcl : mc.claimEvent ∈ inEvents p.dzn.itf) (hrl : mc.releaseEvent ∈ inEvents p.dzn.itf)
    (hne : mc.releaseEvent.name ≠ mc.claimEvent.name) (hnv : isVoid mc.claimEvent = false)
    (hevuC : ∀ e ∈ p.dzn.itf.events, e.name = mc.claimEvent.name → evDirOf e = .in_ → e = mc.claimEvent)
    (hevuR : ∀ e ∈ p.dzn.itf.events, e.name = mc.releaseEvent.name → evDirOf e = .in_ → e = mc.releaseEvent)
    (hndC : (mc.claimEvent.formals.map (·.name)).Nodup) (hndR : (mc.releaseEvent.formals.map (·.name)).Nodup)
    (hinj : ∀ q ∈ b.ir.provides ++ b.ir.requires, q.target = p.target → q = p)
    (hninj : ∀ q ∈ b.ir.provides, q.name = p.name → q = p)
    (hnames : ∀ q ∈ b.ir.requires, q.name ≠ p.name)
    (hu : C01.UniqueEvents b.allPorts)
    (pump runtime : Bool) (name : Str) (extra : Bool)
    (w0 : World) (hw0 : construct b.ir b.allPorts b.grantIndex pump runtime none name extra = .ok w0)
    (ids : List Str) (hids : ∀ id ∈ ids, id ≠ []) (hnd : ids.Nodup)
    (gi : Nat) (hgi : b.grantIndex = some gi)
    (n : Nat) (ops : List ClientOp) (hops : ∀ op ∈ ops, op.id ∈ ids)
    (hargs : ∀ op ∈ ops, op.arity mc.claimEvent mc.releaseEvent)
    (hnf : NoForeignRelease none (ops.map (ClientOp.abs gi))) :
    let w := ids.foldl (fun w id => (registerClient w p id).1) w0
    ∃ s', (ops.foldl (runOp n p.target p.name mc.claimEvent mc.releaseEvent) w).selector p.target = some s' ∧
      s'.selected = (ops.map (ClientOp.abs gi)).foldl specStep none := by
  obtain ⟨psC, psR, hnC, hnR, hw, hq, hg, hs⟩ := build_mc_wired fc cfg b h p hp hsem mc hmc hcl hrl hne hnv hevuC hevuR
    hndC hndR hinj hninj hnames hu pump runtime name extra w0 hw0 ids hids hnd
  refine history_holder n p.target p.name mc.claimEvent mc.releaseEvent psC psC psR psR _ _ _ ids gi ops _
    { mv := p.target, port := p.name, clients := ids } hw hq (hg.trans hgi) hs hops (fun op hop => ?_) hops hnf
  have := hargs op hop
  cases op with
  | claim id v args => exact (length_eq_of_map_eq hnC).trans this
  | release id args => exact (length_eq_of_map_eq hnR).trans this

end C04
