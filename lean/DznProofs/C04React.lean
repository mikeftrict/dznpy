/-
  C04 with a wrapped component that reacts: an out-event the component raises WHILE it handles the
  release of the claim holder is delivered to that holder — the generated release wrapper forwards the
  release first and deselects afterwards (the order `C11.wrapper_order` pins to the generated text).
-/
import DznModel.Sem
import DznProofs.C04Gen
import DznProofs.C04Example
open Ast Shell Sem Lem

namespace C04

/-- **release with a reaction**: client `id` holds the claim (it is the selected client) and calls the
    release event; while the wrapped component handles it, it raises the out-event `oev` on the
    multi-client port.  Then the trace shows, in this order, the component's observation of the release
    (in dispatcher context) and the *holder's* observation of the out-event; only after that is the
    client deselected.  (With the two statements of the wrapper swapped the out-event would meet an empty
    selection: that is what the seeded changes C01e/C04e do.) -/
theorem release_reaction_reaches_holder (rx : Reactions) (w : World) (n : Nat) (mv p id : Str) (ev oev : Event)
    (ps ps' psO : List LParam) (byVal : List Str) (args : List Val) (sel : Selector) (itf : InterfaceD) (port : Port)
    (hq : w.queue = [])
    (hcl : w.get ⟨.client mv id, .in_, ev.name⟩ =
      some (.ir (.mcRelease mv ev.name ev.name ps (ps.map (·.name))) ev id mv))
    (harb : w.get ⟨.arb mv, .in_, ev.name⟩ =
      some (.ir (.shell ⟨.enc p, .in_, ev.name⟩ ps' (ps'.map (·.name)) byVal) ev [] []))
    (hc : w.get ⟨.enc p, .in_, ev.name⟩ = some (.scripted .comp p ev))
    -- the out-event path of the multi-client port
    (henc : w.get ⟨.enc p, .out, oev.name⟩ = some (.ir (.ref ⟨.arb mv, .out, oev.name⟩) oev [] []))
    (harbO : w.get ⟨.arb mv, .out, oev.name⟩ = some (.ir (.mcDeliver mv oev.name psO (psO.map (·.name))) oev [] []))
    (hclO : w.get ⟨.client mv id, .out, oev.name⟩ = some (.scripted (.envc id) p oev))
    -- the releasing client is the holder
    (hsel : w.selector mv = some sel) (hs : sel.selected = some id)
    -- the reaction and the declaration of the out-event
    (hrx : rx.lookup (p, ev.name) = some (p, oev.name))
    (hport : w.allPorts.find? (fun pi => pi.1.name = p) = some (port, itf))
    (hoev : itf.events.find? (fun e => e.name = oev.name) = some oev)
    (hlen : ps.length = args.length) (hnd : (ps.map (·.name)).Nodup)
    (hlen' : ps'.length = args.length) (hnd' : (ps'.map (·.name)).Nodup)
    (hlenO : psO.length = oev.formals.length) (hndO : (psO.map (·.name)).Nodup) :
    ∃ w', (invokeR rx (n + 7) w ⟨.client mv id, .in_, ev.name⟩ args).1 = w' ∧
      w'.out = C01.obsLine (.envc id) p oev (List.replicate oev.formals.length 0) true ::
               C01.obsLine .comp p ev args true :: w.out ∧
      w'.selector mv = some (sel.deselect id) := by
  refine ⟨_, rfl, ?_⟩
  -- Inside out.  First the call `dzn::shell` makes on the component's port, in dispatcher context: the
  -- component observes the release and reacts; the nested out-event goes component port → arbitered
  -- port → the selected client (`deliverR_to_selected`).  Of the world this leaves only the trace and
  -- the selector matter, so it is kept abstract (`w3`) and the terms below stay small.
  obtain ⟨w3, r, a, h3, hout, hsel3⟩ : ∃ w3 r a,
      invokeR rx (n + 5) { w with shellCalls := w.shellCalls + 1, pumpTouched := true, inDispatch := true }
        ⟨.enc p, .in_, ev.name⟩ args = (w3, .ok r a) ∧
      w3.out = C01.obsLine (.envc id) p oev (List.replicate oev.formals.length 0) true ::
               C01.obsLine .comp p ev args true :: w.out ∧
      w3.selector mv = some sel := by
    let w1 : World := { w with shellCalls := w.shellCalls + 1, pumpTouched := true, inDispatch := true }
    have hreact : reactionOf rx (scriptedRun w1 .comp p ev args).1 p ev.name =
        some (p, oev.name, oev.formals.length) := by
      have : (scriptedRun w1 .comp p ev args).1.allPorts = w.allPorts := rfl
      simp only [reactionOf, hrx, this, hport, hoev]
    have hdeliver := deliverR_to_selected (rx := rx) (w := (scriptedRun w1 .comp p ev args).1) (n + 1)
      (args := List.replicate oev.formals.length 0) henc harbO hclO hsel hs
      (by rw [List.length_replicate]; exact hlenO) hndO
    -- the fuel is written as `hdeliver` has it: under a projection the kernel is slow to see `n + 1 + 3` as `n + 4`
    have h3 := invokeR_scripted (rx := rx) (n := n + 1 + 3) (args := args) (w := w1) hc
    simp only [show (Who.comp == Who.comp) = true from rfl, if_true, hreact, hdeliver] at h3
    exact ⟨_, _, _, h3, rfl, hsel⟩
  rw [invokeR_mcRelease hcl]
  simp only [evalArgs_self ps args hlen hnd, invokeR_shell harb, evalArgs_self ps' args hlen' hnd', resolveSlot,
    resolveObj, drainR_empty (w := { w with shellCalls := w.shellCalls + 1, pumpTouched := true }) hq, h3]
  -- Afterwards `Deselect(id)` runs on the selector as it was: no call has touched it.
  have hsel4 : World.selector { w3 with inDispatch := w.inDispatch, executed := w3.executed + 1 } mv = some sel := hsel3
  simp only [hsel4]
  exact ⟨hout, selector_written _ ((deselect_mv ..).trans (selector_mv w mv sel hsel))⟩

/-! ### worked instance (kernel evaluation of the model on the shell of `C04Example`): client `A`'s
    out-event `done` is bound, `A` claims and is granted; the component is told to raise `done` while it
    handles `drop`; `A` releases — inside that call the out-event is observed by `A`, in dispatcher
    context, right after the component's observation of the release, and afterwards nobody is selected -/

def evDone : Event := { name := L "done", replyType := [L "void"], dir := .out, formals := [] }

/-- `A` has bound its out-event and holds the claim -/
def mcHeld : World :=
  let w := mcW.set ⟨.client (L "m_ppP") (L "A"), .out, L "done"⟩ (.scripted (.envc (L "A")) (L "p") evDone)
  (invoke 8 (setReply w (L "p") (L "take") 1) ⟨.client (L "m_ppP") (L "A"), .in_, L "take"⟩ []).1

def rxDrop : Reactions := [((L "p", L "drop"), (L "p", L "done"))]

example : ((mcHeld.selector (L "m_ppP")).bind (·.selected)) = some (L "A") := by decide +kernel

example :
    let r := (invokeR rxDrop 9 { mcHeld with out := [] } ⟨.client (L "m_ppP") (L "A"), .in_, L "drop"⟩ []).1
    r.out.reverse = [L "obs comp p.drop args= disp=1", L "obs env@A p.done args= disp=1"] ∧
    ((r.selector (L "m_ppP")).bind (·.selected)) = none := by decide +kernel

end C04
