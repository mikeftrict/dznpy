/-
  C10 (continued) — the `FinalConstruct` body the generator emits, and detection at the level of
  `Builder.build`: the semantics (`Sem.finalStep`) executes the *generated statements*
  (`ir.finalConstruct`); `createFinalConstructFn_stmts` says which statements are generated; the
  `build_*` theorems join the two for every model and configuration the builder accepts.
-/
import DznModel.Sem
import DznProofs.Lemmas.Build
import DznProofs.C10
open Py Ast Shell Sem Lem

namespace C10

def fcStmt (p : CppPortItf) : Str := p.target ++ L ".FinalConstruct();"
def cbStmt (p : CppPortItf) : Str := p.target ++ L ".check_bindings();"
def parentStmt : Str := L "m_encapsulee.dzn_meta.parent = parentComponentMeta;"
def encStmt : Str := L "m_encapsulee.check_bindings();"

/-- the statements of the generated `FinalConstruct` body, in order: `FinalConstruct()` of every
    multi-client port, `check_bindings()` of every other exposed port, the parent meta, the
    component's own `check_bindings()` -/
theorem createFinalConstructFn_stmts (sn : Str) (pp rp : List CppPortItf) :
    (createFinalConstructFn sn pp rp).2 =
      (pp.filter (·.isMc)).map fcStmt ++ ((pp.filter (!·.isMc)).map cbStmt ++ rp.map cbStmt) ++ [parentStmt, encStmt] := rfl

/-! ### which step a generated statement denotes -/

theorem append_ne_append {s t : Str} (n : Nat)
    (h : n ≤ s.length ∧ n ≤ t.length ∧ s.reverse.take n ≠ t.reverse.take n) (x y : Str) : x ++ s ≠ y ++ t := by
  intro e
  have := congrArg (fun l => l.reverse.take n) e
  simp only [List.reverse_append] at this
  rw [List.take_append_of_le_length (by simpa using h.1), List.take_append_of_le_length (by simpa using h.2.1)] at this
  exact h.2.2 this

/-- the `check_bindings()` statement of an exposed port denotes the check of that port -/
theorem stmtStep_cb (ir : ShellIR) (parent : Bool) (p : CppPortItf) (hp : p ∈ ir.provides ++ ir.requires)
    (hne : p.target ≠ L "m_encapsulee")
    (hinj : ∀ q ∈ ir.provides ++ ir.requires, q.target = p.target → q = p) :
    stmtStep ir parent (cbStmt p) = some (checkStep p) := by
  unfold stmtStep cbStmt
  -- `….check_bindings();` is not the parent statement (it ends differently), not the component's
  -- own check (its target is another), and no `….FinalConstruct();` (it ends differently)
  refine (if_neg (append_ne_append 2 (by decide +kernel) _ [])).trans
    ((if_neg fun e => hne (List.append_cancel_right (cs := L "m_encapsulee") e)).trans ?_)
  rw [List.find?_eq_none.mpr fun q _ hq =>
      append_ne_append 5 (by decide +kernel) _ _ (of_decide_eq_true hq),
    find?_unique hp (decide_eq_true rfl) fun q hq hqt =>
      hinj q hq (List.append_cancel_right (of_decide_eq_true hqt)).symm]

/-- the `FinalConstruct()` statement of a multi-client port denotes that selector's final construction -/
theorem stmtStep_fc (ir : ShellIR) (parent : Bool) (p : CppPortItf) (hp : p ∈ ir.provides.filter (·.isMc))
    (hinj : ∀ q ∈ ir.provides.filter (·.isMc), q.target = p.target → q = p) :
    stmtStep ir parent (fcStmt p) = some (mcFinalStep p) := by
  unfold stmtStep fcStmt
  refine (if_neg (append_ne_append 2 (by decide +kernel) _ [])).trans
    ((if_neg (append_ne_append 5 (by decide +kernel) _ [])).trans ?_)
  rw [find?_unique hp (decide_eq_true rfl) fun q hq hqt =>
      hinj q hq (List.append_cancel_right (of_decide_eq_true hqt)).symm]


/-! ### at the level of `Builder.build` -/

/-- the `FinalConstruct` statements of the shell `Builder.build` generates -/
theorem build_final_stmts (fc : FC) (cfg : Config) (b : BuildResult) (h : build fc cfg = .ok b) :
    b.ir.finalConstruct =
      (b.ir.provides.filter (·.isMc)).map fcStmt ++
        ((b.ir.provides.filter (!·.isMc)).map cbStmt ++ b.ir.requires.map cbStmt) ++ [parentStmt, encStmt] := by
  obtain ⟨s, ⟨B⟩, rfl⟩ := build_ok h
  rw [B.finalConstruct]
  exact createFinalConstructFn_stmts (shellName cfg) _ _

theorem build_targets (fc : FC) (cfg : Config) (b : BuildResult) (h : build fc cfg = .ok b) :
    ∀ p ∈ b.ir.provides ++ b.ir.requires, p.target ≠ L "m_encapsulee" := by
  obtain ⟨s, ⟨B⟩, rfl⟩ := build_ok h
  intro p hp e
  obtain ⟨d, _, hcp⟩ := B.port_created hp
  -- `m_encapsulee.<port>` is longer than `m_encapsulee`, `m_pp…` / `m_rp…` differ from it in the third character
  rcases (createCppPortItf_ok hcp).2 with ⟨_, ht⟩ | ⟨cap, ht | ht, _⟩ <;> rw [ht] at e
  · simpa using congrArg List.length e
  · simpa using congrArg (List.take 3) e
  · simpa using congrArg (List.take 3) e

/-- **C10 at the level of `Builder.build` (boundary ports)**: in the shell generated for any
    accepted model and configuration, if a single event of an exposed port that is not the
    multi-client port is left unbound on the object the user binds (the component's own port for
    STS, the boundary member for MTS), final construction does not return normally — in whatever
    state the shell otherwise is.  (`hinj`: no two ports share a boundary member, K-2.) -/
theorem build_detects_unbound_boundary (fc : FC) (cfg : Config) (b : BuildResult) (h : build fc cfg = .ok b)
    (p : CppPortItf) (hp : p ∈ b.ir.provides.filter (!·.isMc) ∨ p ∈ b.ir.requires)
    (hinj : ∀ q ∈ b.ir.provides ++ b.ir.requires, q.target = p.target → q = p)
    (w : World) (hw : w.ir = b.ir) (parent : Bool)
    (e : Event) (he : e ∈ p.dzn.itf.events)
    (hun : w.get ⟨boundaryObj p, evDirOf e, e.name⟩ = none) :
    (finalConstruct w parent).2.isSome = true := by
  have hmem : p ∈ b.ir.provides ++ b.ir.requires :=
    hp.elim (fun hp => List.mem_append_left _ (List.mem_filter.mp hp).1) (List.mem_append_right _)
  apply detect_unbound_boundary w parent p ⟨cbStmt p, ?_, ?_⟩ e he hun
  · rw [hw, build_final_stmts fc cfg b h]
    simp only [List.mem_append, List.mem_map]
    rcases hp with hp | hp
    · exact Or.inl (Or.inr (Or.inl ⟨p, hp, rfl⟩))
    · exact Or.inl (Or.inr (Or.inr ⟨p, hp, rfl⟩))
  · rw [hw]
    exact stmtStep_cb b.ir parent p hmem (build_targets fc cfg b h p hmem) hinj

/-- **C10 at the level of `Builder.build` (the component's own ports)**: an unbound event on any
    port of the wrapped component, injected ones included, is detected -/
theorem build_detects_unbound_component (fc : FC) (cfg : Config) (b : BuildResult) (h : build fc cfg = .ok b)
    (w : World) (hw : w.ir = b.ir) (parent : Bool)
    (p : Port) (itf : InterfaceD) (hp : (p, itf) ∈ w.allPorts) (e : Event) (he : e ∈ itf.events)
    (hun : w.get ⟨.enc p.name, evDirOf e, e.name⟩ = none) :
    (finalConstruct w parent).2.isSome = true := by
  apply detect_unbound_component w parent p itf ?_ hp e he hun
  rw [hw, build_final_stmts fc cfg b h]
  exact List.mem_append_right _ (.tail _ (.head _))

/-- **C10 at the level of `Builder.build` (multi-client port)**: the generated body runs the
    selector's `FinalConstruct()`; so an unbound event on any registered client port is detected,
    and a second final construction is refused -/
theorem build_detects_unbound_client (fc : FC) (cfg : Config) (b : BuildResult) (h : build fc cfg = .ok b)
    (p : CppPortItf) (hp : p ∈ b.ir.provides.filter (·.isMc))
    (hinj : ∀ q ∈ b.ir.provides.filter (·.isMc), q.target = p.target → q = p)
    (w : World) (hw : w.ir = b.ir) (parent : Bool)
    (hsel : ∀ w' : World, w'.store = w.store → ∃ sel, w'.selector p.target = some sel ∧
        (sel.finalConstructed = true ∨ ∃ id ∈ sortedIds sel.clients, ∃ e ∈ p.dzn.itf.events,
          w.get ⟨.client p.target id, evDirOf e, e.name⟩ = none)) :
    (finalConstruct w parent).2.isSome = true := by
  apply detect_unbound_client w parent p ⟨fcStmt p, ?_, ?_⟩ hsel
  · rw [hw, build_final_stmts fc cfg b h]
    simp only [List.mem_append, List.mem_map]
    exact Or.inl (Or.inl ⟨p, hp, rfl⟩)
  · rw [hw]
    exact stmtStep_fc b.ir parent p hp hinj

end C10
