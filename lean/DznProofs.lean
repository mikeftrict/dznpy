import DznModel
import DznProofs.Lemmas.Text
import DznProofs.Lemmas.Scoping
import DznProofs.Lemmas.Conc
import DznProofs.Lemmas.Parser
import DznProofs.C14
import DznProofs.C17
import DznProofs.C18
import DznProofs.C19
import DznProofs.C15
import DznProofs.C15Input
import DznProofs.C16
import DznProofs.C05
import DznProofs.C03
import DznProofs.C20
import DznProofs.Lemmas.Sem
import DznProofs.Lemmas.Wiring
import DznProofs.C01
import DznProofs.C01Gen
import DznProofs.C02
import DznProofs.C04
import DznProofs.C09
import DznProofs.C10
import DznProofs.C11
import DznProofs.C06
import DznProofs.C12
import DznProofs.C13
import DznProofs.C08
import DznProofs.C08Md5
import DznProofs.C07
import DznProofs.C11Holder
import DznProofs.C19Files
import DznProofs.C13Invalid
import DznProofs.C13Valid
import DznProofs.C03Build
import DznProofs.C04Spec
import DznProofs.C01Example
import DznProofs.C02Gen
import DznProofs.C04Gen
import DznProofs.C04Example
import DznProofs.C10Gen
import DznProofs.C01Parse
import DznProofs.C04Build
import DznProofs.C17Hist
import DznProofs.C12Heap
import DznProofs.C14Single
import DznProofs.SemReact
import DznProofs.C04React
import DznProofs.C05Skip
